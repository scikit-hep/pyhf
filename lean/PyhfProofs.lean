import PyhfProofs.Lemmas.Except
import PyhfProofs.Lemmas.RealPrim
import PyhfProofs.Lemmas.Piecewise
import PyhfProofs.Lemmas.InterpReal
import PyhfProofs.Lemmas.GenAttr
import PyhfProofs.Lemmas.GenNorm
import PyhfProofs.Lemmas.Lists
import PyhfProofs.Lemmas.PW
import PyhfProofs.Lemmas.EngineA
import PyhfProofs.Lemmas.Build
import PyhfProofs.Lemmas.EngineAD
import PyhfProofs.Properties.C01
import PyhfProofs.Properties.C03
import PyhfProofs.Properties.C12
import PyhfProofs.Lemmas.Logpdf
import PyhfProofs.Lemmas.Batch
import PyhfProofs.Properties.C02
import PyhfProofs.Properties.C10
import PyhfProofs.Lemmas.Canon
import PyhfProofs.Properties.C20
import PyhfProofs.Lemmas.Argsort
import PyhfProofs.Lemmas.KKT
import PyhfProofs.Lemmas.Quadratic
import PyhfProofs.Lemmas.Mills
import PyhfProofs.Lemmas.Dump
import PyhfProofs.Lemmas.Find
import PyhfProofs.Lemmas.Ite
import PyhfProofs.Lemmas.Join
import PyhfProofs.Lemmas.Events
import PyhfProofs.Lemmas.PatchSetDict
import PyhfProofs.Lemmas.FwdErr
import PyhfProofs.Properties.C05
import PyhfProofs.Properties.C06
import PyhfProofs.Properties.C07
import PyhfProofs.Properties.C08
import PyhfProofs.Lemmas.NpInterp
import PyhfProofs.Properties.C09
import PyhfProofs.Properties.C14
import PyhfProofs.Properties.C17
import PyhfProofs.Properties.C16
import PyhfProofs.Properties.C11
import PyhfProofs.Lemmas.DualLift
import PyhfProofs.Properties.C13
import PyhfProofs.Properties.C04
import PyhfProofs.Properties.C15
import PyhfProofs.Properties.C18
import PyhfProofs.Properties.C19
import PyhfProofs.Lemmas.ReqDict
import PyhfProofs.Lemmas.Cells
import PyhfProofs.Lemmas.RejectPyhf
import PyhfProofs.Lemmas.RejectPyhfCounterexample
import PyhfProofs.Properties.C20_Reject
import PyhfProofs.Properties.C03_Gen
import PyhfProofs.Lemmas.Lookup
import PyhfProofs.Lemmas.PermInv
import PyhfProofs.Lemmas.PermCongr
import PyhfProofs.Lemmas.PermEval
import PyhfProofs.Lemmas.PermInvExample
import PyhfProofs.Lemmas.Overrides
import PyhfProofs.Lemmas.Staterror
import PyhfProofs.Lemmas.StaterrorReal
import PyhfProofs.Properties.C15_Perm
import PyhfProofs.Properties.C12_Overrides
import PyhfProofs.Properties.C02_Staterror
import PyhfProofs.Properties.C16_Perm
import PyhfProofs.Properties.C06_Gen
import PyhfProofs.Properties.C07_Gen
import PyhfProofs.Properties.C01_Gen
import PyhfProofs.Properties.C02_Gen
import PyhfProofs.Properties.C08_Gen
import PyhfProofs.Properties.C08_OnOff
import PyhfProofs.Lemmas.CombineLocal
import PyhfProofs.Lemmas.CombineAdd
import PyhfProofs.Lemmas.CombineExample
import PyhfProofs.Properties.C16_Combine
import PyhfProofs.Properties.C10_Gen
import PyhfProofs.Properties.C04_Gen
import PyhfProofs.Properties.C03_GenMulti
import PyhfProofs.Properties.C01_Gen2
import PyhfProofs.Properties.C02_Gen2
import PyhfProofs.Properties.C16_Gen
import PyhfProofs.Properties.C15_Gen
import PyhfProofs.Properties.C10_Gen2
import PyhfProofs.Properties.C12_Gen
import PyhfProofs.Properties.C09_Gen
import PyhfProofs.Properties.C09_Ties
import PyhfProofs.Properties.C14_Gen
import PyhfProofs.Properties.C05_Gen
import PyhfProofs.Properties.C13_Gen
import PyhfProofs.Properties.C19_Gen
import PyhfProofs.Properties.C20_Gen
import PyhfProofs.Properties.C17_Gen
import PyhfProofs.Properties.C16_GenJoin
import PyhfProofs.Properties.C18_Gen
import PyhfProofs.Properties.C11_Gen
