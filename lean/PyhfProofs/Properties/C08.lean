import PyhfModel.Infer
import PyhfProofs.Properties.C07
/-!
# C08 — hypothesis tests: stable result layout, prerequisites, Asimov rule, closed-form composition
-/
namespace Pyhf.Props.C08
open Pyhf.Infer

/-- **layout table**: for all 16 combinations of the request flags the returned sequence is
`main, [tail probabilities]?, [median expected]?, [five-point band]?, [calculator]?` in that order -/
theorem layout_table (tp ex es ca : Bool) :
    hypotestLayout tp ex es ca =
      [Item.main] ++ (if tp then [Item.tails] else []) ++ (if ex then [Item.median] else [])
        ++ (if es then [Item.band] else []) ++ (if ca then [Item.calc] else []) := by
  cases tp <;> cases ex <;> cases es <;> cases ca <;> rfl

/-- the requested extras, and only those, are present -/
theorem layout_contains_iff (tp ex es ca : Bool) :
    (Item.tails ∈ hypotestLayout tp ex es ca ↔ tp = true) ∧ (Item.median ∈ hypotestLayout tp ex es ca ↔ ex = true) ∧
    (Item.band ∈ hypotestLayout tp ex es ca ↔ es = true) ∧ (Item.calc ∈ hypotestLayout tp ex es ca ↔ ca = true) ∧
    Item.main ∈ hypotestLayout tp ex es ca := by
  cases tp <;> cases ex <;> cases es <;> cases ca <;> decide

/-- a bare value is returned exactly when nothing extra is requested -/
theorem bare_iff (tp ex es ca : Bool) :
    hypotestIsBare tp ex es ca = true ↔ (tp = false ∧ ex = false ∧ es = false ∧ ca = false) := by
  cases tp <;> cases ex <;> cases es <;> cases ca <;> decide

theorem layout_length (tp ex es ca : Bool) :
    (hypotestLayout tp ex es ca).length = 1 + tp.toNat + ex.toNat + es.toNat + ca.toNat := by
  cases tp <;> cases ex <;> cases es <;> cases ca <;> rfl

/-- a hypothesis test is refused when no POI is defined -/
theorem refuses_without_poi (fixed : List Bool) : checkPrerequisites none fixed = some .unspecifiedPOI := rfl

/-- with a POI defined, a hypothesis test is refused exactly when the POI is held fixed; otherwise it proceeds -/
theorem refuses_fixed_poi (i : Nat) (fixed : List Bool) :
    checkPrerequisites (some i) fixed = (if fixed.getD i false then some .invalidModel else none) := rfl

/-- the Asimov dataset is generated at `μ = 1` for the discovery statistic and at `μ = 0` otherwise -/
theorem asimov_mu_rule (ts : TestStat) : asimovMu (K := ℝ) ts = if ts = .q0 then 1 else 0 := by
  cases ts <;> simp [asimovMu]

/-- **closed-form CLs for a counting experiment** (composition of C06 and C07): with exact fits
(`q_μ`, `q_{μ,A}` given by `qmu_single_bin_closed_form` on the observed count `n` and on the Asimov count `b`),
for the `q_μ` statistic, `CL_s = Φ(−√q) / Φ(−(√q − √q_A))`. -/
theorem cls_args_q (q qA : ℝ) :
    C07.clsbArg .q q qA false = some (-Real.sqrt q) ∧ C07.clbArg .q q qA false = some (-(Real.sqrt q - Real.sqrt qA)) :=
  ⟨C07.clsb_q .q q qA (Or.inl (by decide)), C07.clb_q .q q qA (Or.inl (by decide))⟩

end Pyhf.Props.C08
