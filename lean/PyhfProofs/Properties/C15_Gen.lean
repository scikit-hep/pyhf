import PyhfGen.Ws
import PyhfProofs.Properties.C16_Gen
/-!
# C15 (continued) — likelihood-preserving rewrites, on the production code

Same generated file as `C16_Gen` (`PyhfGen/Ws.lean`, regenerated on every C15 / C16 run by symbolic execution of `pyhf.Workspace`,
`Workspace.model`, `Workspace.data` and `Model.logpdf` on a workspace whose yields, variations, uncertainties and observations are all
symbolic; the translator's decisions are those positive yields make).  The equalities hold for all real values of every symbol:
reordering every list, renaming channels / samples / modifiers, splitting a sample into two with identical modifiers, splitting a channel's bins into one-bin channels, adding a
zero-yield sample, adding a shape systematic whose variations equal the nominal (up to its own constraint term), and scaling the
signal templates by `k` while reading the signal strength as `μ/k` all leave the log-likelihood unchanged.
-/
namespace Pyhf.Props.C15
open Pyhf.Props.C16

variable (lpois : ℝ → ℝ → ℝ) (lnorm : ℝ → ℝ → ℝ → ℝ)
variable (c0 clo chi s0 s1 slo shi b0 b1 e0 e1 oc0 os0 os1 sa0 sa1 sb0 sb1 k_bkg mu sysA stat0 stat1 nullsys : ℝ)

/-- reordering channels, samples, modifiers and observations -/
theorem gen_reorder_invariant :
    Gen.ws_shuf_logpdf realPrim lpois lnorm c0 clo chi s0 s1 slo shi b0 b1 e0 e1 oc0 os0 os1 sa0 sa1 sb0 sb1 k_bkg mu sysA stat0 stat1 nullsys
      = Gen.ws_base_logpdf realPrim lpois lnorm c0 clo chi s0 s1 slo shi b0 b1 e0 e1 oc0 os0 os1 sa0 sa1 sb0 sb1 k_bkg mu sysA stat0 stat1 nullsys :=
  ws_shuffled_eq lpois lnorm c0 clo chi s0 s1 slo shi b0 b1 e0 e1 oc0 os0 os1 sa0 sa1 sb0 sb1 k_bkg mu sysA stat0 stat1 nullsys

/-- renaming channels, samples and modifiers (parameters identified through the renaming) -/
theorem gen_rename_invariant :
    Gen.ws_ren_logpdf realPrim lpois lnorm c0 clo chi s0 s1 slo shi b0 b1 e0 e1 oc0 os0 os1 sa0 sa1 sb0 sb1 k_bkg mu sysA stat0 stat1 nullsys
      = Gen.ws_base_logpdf realPrim lpois lnorm c0 clo chi s0 s1 slo shi b0 b1 e0 e1 oc0 os0 os1 sa0 sa1 sb0 sb1 k_bkg mu sysA stat0 stat1 nullsys :=
  ws_rename_eq lpois lnorm c0 clo chi s0 s1 slo shi b0 b1 e0 e1 oc0 os0 os1 sa0 sa1 sb0 sb1 k_bkg mu sysA stat0 stat1 nullsys

/-- **splitting a sample**: two signal samples with yields `sa`, `sb` and identical modifiers = one sample with yields `sa + sb` -/
theorem gen_split_sample_invariant :
    Gen.ws_split_logpdf realPrim lpois lnorm c0 clo chi s0 s1 slo shi b0 b1 e0 e1 oc0 os0 os1 sa0 sa1 sb0 sb1 k_bkg mu sysA stat0 stat1 nullsys
      = Gen.ws_base_logpdf realPrim lpois lnorm c0 clo chi (sa0 + sb0) (sa1 + sb1) slo shi b0 b1 e0 e1 oc0 os0 os1 sa0 sa1 sb0 sb1 k_bkg mu sysA stat0 stat1 nullsys := by
  unfold Gen.ws_split_logpdf Gen.ws_base_logpdf
  -- the yields add up inside the rates (`mul_add`); the second sample's zero uncertainty drops out of the MC-statistical widths
  rcases code4_regimes one_pos sysA with h | h | h <;>
    simp only [gen_norm, h, mul_add, add_assoc, zero_div, ne_eq, OfNat.ofNat_ne_zero, not_false_eq_true, zero_pow]

/-- **zero-yield sample**: an additional sample with zero yields (carrying a shared systematic and a shared normalisation) changes nothing -/
theorem gen_zero_sample_invariant :
    Gen.ws_ghost_logpdf realPrim lpois lnorm c0 clo chi s0 s1 slo shi b0 b1 e0 e1 oc0 os0 os1 sa0 sa1 sb0 sb1 k_bkg mu sysA stat0 stat1 nullsys
      = Gen.ws_base_logpdf realPrim lpois lnorm c0 clo chi s0 s1 slo shi b0 b1 e0 e1 oc0 os0 os1 sa0 sa1 sb0 sb1 k_bkg mu sysA stat0 stat1 nullsys := by
  unfold Gen.ws_ghost_logpdf Gen.ws_base_logpdf
  rcases code4_regimes one_pos sysA with h | h | h <;> simp only [gen_norm, h, mul_zero, zero_div, ne_eq, OfNat.ofNat_ne_zero, not_false_eq_true, zero_pow]

/-- **splitting a channel**: the two bins of SR as two one-bin channels (each with its own MC-statistical modifier for its bin) -/
theorem gen_channel_split_invariant :
    Gen.ws_chsplit_logpdf realPrim lpois lnorm c0 clo chi s0 s1 slo shi b0 b1 e0 e1 oc0 os0 os1 sa0 sa1 sb0 sb1 k_bkg mu sysA stat0 stat1 nullsys
      = Gen.ws_base_logpdf realPrim lpois lnorm c0 clo chi s0 s1 slo shi b0 b1 e0 e1 oc0 os0 os1 sa0 sa1 sb0 sb1 k_bkg mu sysA stat0 stat1 nullsys := by
  unfold Gen.ws_chsplit_logpdf Gen.ws_base_logpdf
  rcases code4_regimes one_pos sysA with h | h | h <;> simp only [gen_norm, h]

/-- **null systematic**: a correlated-shape systematic whose variations equal the nominal only adds its own constraint term,
for every value of its parameter -/
theorem gen_null_modifier_invariant :
    Gen.ws_null_logpdf realPrim lpois lnorm c0 clo chi s0 s1 slo shi b0 b1 e0 e1 oc0 os0 os1 sa0 sa1 sb0 sb1 k_bkg mu sysA stat0 stat1 nullsys
      = Gen.ws_base_logpdf realPrim lpois lnorm c0 clo chi s0 s1 slo shi b0 b1 e0 e1 oc0 os0 os1 sa0 sa1 sb0 sb1 k_bkg mu sysA stat0 stat1 nullsys + lnorm 0 nullsys 1 := by
  unfold Gen.ws_null_logpdf Gen.ws_base_logpdf
  -- in every branch of its own interpolation the null systematic shifts by a multiple of `nominal - nominal`: the branches coincide
  rcases code4_regimes one_pos sysA with h | h | h <;> simp only [gen_norm, h, sub_self, mul_zero, ite_self] <;> ring1

/-- **signal scale**: templates × k with the signal strength read as μ / k -/
theorem gen_signal_scale_invariant (k : ℝ) (hk : k ≠ 0) :
    Gen.ws_base_logpdf realPrim lpois lnorm c0 clo chi (s0 * k) (s1 * k) slo shi b0 b1 e0 e1 oc0 os0 os1 sa0 sa1 sb0 sb1 k_bkg (mu / k) sysA stat0 stat1 nullsys
      = Gen.ws_base_logpdf realPrim lpois lnorm c0 clo chi s0 s1 slo shi b0 b1 e0 e1 oc0 os0 os1 sa0 sa1 sb0 sb1 k_bkg mu sysA stat0 stat1 nullsys := by
  obtain ⟨m, rfl⟩ : ∃ m, mu = m * k := ⟨mu / k, (div_mul_cancel₀ mu hk).symm⟩
  unfold Gen.ws_base_logpdf
  rcases code4_regimes one_pos sysA with h | h | h <;> simp only [gen_norm, h, mul_div_cancel_right₀ m hk] <;> ac_rfl

end Pyhf.Props.C15
