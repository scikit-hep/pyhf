import PyhfGen.PatchSet
import PyhfModel.PatchSet
import PyhfProofs.Lemmas.Ite
/-!
# C17 (continued) — the patch-set constructor, lookup, `verify` and `apply` as they are written *now*

`PyhfGen/PatchSet.lean` is regenerated on every C17 run: the real `pyhf.PatchSet` is constructed on three patches whose names and
(one-component) value tuples are symbolic atoms — every dictionary membership test of the constructor consults the decision oracle, so
all feasible combinations of equalities among the names and among the values are enumerated — and every name, value tuple and value
list is looked up in the accepted set.  The theorem states, for **all** strings and values: the constructor's outcome is the model's
(`PatchSet.build`: the same duplicate reported, names before values, earlier patches before later ones), and in an accepted set every
key finds exactly its own patch, a list key behaving like the tuple.  Likewise `verify` and `apply` are run on a patch set listing two
digest algorithms, recorded and computed digests symbolic strings (`Gen.patchset_verify2`), and compared with the model's `verify` / `apply`.
-/
namespace Pyhf.Props.C17
open Pyhf.PatchSet

variable {V : Type} [DecidableEq V]

/-- what the model predicts for the three-patch set, rendered like the generated outcome -/
def modelOutcome3 (n0 n1 n2 : String) (v0 v1 v2 : V) : String :=
  match build 1 [⟨n0, [v0]⟩, ⟨n1, [v1]⟩, ⟨n2, [v2]⟩] with
  | .error .dupName => "dupName"
  | .error .dupValues => "dupValues"
  | .error _ => "other"
  | .ok d =>
    let keys : List (Key V) := [.name n0, .name n1, .name n2, .values [v0], .values [v1], .values [v2], .values [v0], .values [v1], .values [v2]]
    "ok:" ++ ",".intercalate (keys.map fun k => match lookup d k with | .ok i => toString i | .error _ => "?")

/-- **constructor and lookup = model**, for all names and values -/
theorem gen_patchset_ctor3_eq_model (n0 n1 n2 : String) (v0 v1 v2 : V) :
    Gen.patchset_ctor3 n0 n1 n2 v0 v1 v2 = modelOutcome3 n0 n1 n2 v0 v1 v2 := by
  unfold Gen.patchset_ctor3 modelOutcome3 build
  repeat' (apply ite_of_cases (· = _) <;> intro _)
  all_goals simp [*, buildFrom, insertPatch, Dict.has, Dict.get?, lookup]
  decide

/-- consequence: the generated constructor accepts exactly the sets with pairwise distinct names and pairwise distinct values, and then
every key finds its own patch -/
theorem gen_patchset_ctor3_accepts_iff (n0 n1 n2 : String) (v0 v1 v2 : V) :
    Gen.patchset_ctor3 n0 n1 n2 v0 v1 v2 = "ok:0,1,2,0,1,2,0,1,2" ↔ (n0 ≠ n1 ∧ n0 ≠ n2 ∧ n1 ≠ n2 ∧ v0 ≠ v1 ∧ v0 ≠ v2 ∧ v1 ≠ v2) := by
  repeat' (apply ite_of_cases (· = _ ↔ _) <;> intro _)
  all_goals simp [*]

/-- what the model predicts for `verify` and `apply` on a patch set listing sha256 (recorded `r0`) and md5 (recorded `r1`), the given
workspace hashing to `c0` / `c1`; rendered like the generated outcome (the patch application itself is a parameter of the model) -/
def modelVerify2 (c0 c1 r0 r1 : String) : String :=
  let digest : String → Unit → String := fun alg _ => if alg = "sha256" then c0 else c1
  let digests := [("sha256", r0), ("md5", r1)]
  let d : Dict Nat := [(.name "p", 0), (.values [1], 0)]
  let r1' := match verify digest digests () with | .ok () => "ok" | .error _ => "verification"
  let r2' := match PatchSet.apply digest digests d (fun _ w => w) () (.name "p") with | .ok _ => "ok" | .error .verification => "verification" | .error _ => "other"
  r1' ++ "," ++ r2'

/-- **`verify` / `apply` = model**: with two listed algorithms the outcome of the running code is the model's -/
theorem gen_patchset_verify2_eq_model (c0 c1 r0 r1 : String) : Gen.patchset_verify2 c0 c1 r0 r1 = modelVerify2 c0 c1 r0 r1 := by
  unfold Gen.patchset_verify2 modelVerify2 PatchSet.apply verify lookup
  repeat' (apply ite_of_cases (· = _) <;> intro _)
  all_goals simp [*, Dict.get?]
  all_goals decide

/-- **verification succeeds if and only if the digest under every listed algorithm equals the recorded one** (and `apply` is refused
exactly when verification is) — for what the code does now, all strings -/
theorem gen_patchset_verify2_iff (c0 c1 r0 r1 : String) :
    (Gen.patchset_verify2 c0 c1 r0 r1 = "ok,ok" ↔ (c0 = r0 ∧ c1 = r1)) ∧
    (Gen.patchset_verify2 c0 c1 r0 r1 = "verification,verification" ↔ ¬ (c0 = r0 ∧ c1 = r1)) := by
  unfold Gen.patchset_verify2
  by_cases h0 : c0 = r0 <;> by_cases h1 : c1 = r1 <;> simp [h0, h1] <;> decide

end Pyhf.Props.C17
