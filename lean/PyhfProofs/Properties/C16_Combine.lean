import PyhfProofs.Lemmas.CombineAdd
import PyhfProofs.Lemmas.CombineExample
/-!
# C16 (continued) — the main likelihood of a combination with disjoint channels is the product of the two main likelihoods

`Comb s s₁ s₂`: the channels of `s` are those of `s₁` followed by those of `s₂`, no channel name on both sides (nothing is assumed about
the measurement parameter lists).  `pullPar m mᵢ par`: the operand's parameter assignment induced from the combined one **by name**
(slices are consecutive intervals, `byName_pullPar`).  `NoSharedStaterror`: no MC-statistical name spans both operands — necessary
(a shared staterror is one parameter set over both operands, read at a running offset in the merged channel order:
`Lemmas/CombineExample.lean` has operands on which by-name identification gives other rates); a shared shapesys name is proved impossible in an
accepted combination (`noSharedBinwise_of_built`).  The constraint part is deliberately not additive (each shared constrained parameter is constrained once).
Proofs: `Lemmas/CombineLocal.lean` (per-channel locality of the declarative model), `Lemmas/CombineAdd.lean`.
-/
namespace Pyhf.Props.C16
open Pyhf.Combine

/-- **expected rates**: every channel of the combination has the rates it has in the workspace it came from, parameters identified
by name; as a multiset the combined rates are the two operands' rates -/
theorem combine_expected_rates {K : Type} [Add K] [Sub K] [Mul K] [Div K] [Neg K] [OfNat K 0] [OfNat K 1]
    [OfScientific K] [LT K] [LE K] [DecidableLT K] [DecidableLE K] [BEq K]
    (P : Prim K) (s s₁ s₂ : Spec K) (st : Settings K) (m m₁ m₂ : Model K)
    (hb : buildModel P s st = .ok m) (hb₁ : buildModel P s₁ st = .ok m₁) (hb₂ : buildModel P s₂ st = .ok m₂)
    (hc : Comb s s₁ s₂) (hbin₁ : binwiseOK m₁ = true) (hcov₁ : singularCovers m₁ = true)
    (hbin₂ : binwiseOK m₂ = true) (hcov₂ : singularCovers m₂ = true)
    (hst : NoSharedStaterror m₁ m₂) (par : Nat → K) :
    (D.expected P m par).Perm (D.expected P m₁ (pullPar m m₁ par) ++ D.expected P m₂ (pullPar m m₂ par)) := by
  obtain ⟨h, r₁, r₂⟩ := ratesLocal_of_built hb hb₁ hb₂ hc hbin₁ hcov₁ hbin₂ hcov₂ hst
    (parAgree_pullPar_of_built m hb₁ par) (parAgree_pullPar_of_built m hb₂ par)
  exact expected_perm P h par _ _ r₁ r₂

/-- **main log-likelihood additive** on the code path (`Model.mainlogpdf`), under the hypotheses of theorem R for the three models -/
theorem combine_main_loglik_additive (L : LogPrim ℝ) (s s₁ s₂ : Spec ℝ) (st : Settings ℝ) (m m₁ m₂ : Model ℝ)
    (hb : buildModel realPrim s st = .ok m) (hb₁ : buildModel realPrim s₁ st = .ok m₁)
    (hb₂ : buildModel realPrim s₂ st = .ok m₂) (hc : Comb s s₁ s₂)
    (he : Extra m) (he₁ : Extra m₁) (he₂ : Extra m₂)
    (hst : NoSharedStaterror m₁ m₂) (par : Nat → ℝ)
    (obs : String → List ℝ) (hobs : ∀ c ∈ m.cfg.channels, (obs c).length = m.cfg.nbOf c) :
    mainLogpdfT realPrim L m par (mainData m obs) =
      mainLogpdfT realPrim L m₁ (pullPar m m₁ par) (mainData m₁ obs) +
      mainLogpdfT realPrim L m₂ (pullPar m m₂ par) (mainData m₂ obs) := by
  rw [mainLogpdfT_eq_D L hb he, mainLogpdfT_eq_D L hb₁ he₁, mainLogpdfT_eq_D L hb₂ he₂]
  exact combine_mainLogpdf_of_agree realPrim L s s₁ s₂ st m m₁ m₂ hb hb₁ hb₂ hc he₁.binwise he₁.covers he₂.binwise
    he₂.covers hst par _ _ (parAgree_pullPar_of_built m hb₁ par) (parAgree_pullPar_of_built m hb₂ par) obs hobs

end Pyhf.Props.C16
