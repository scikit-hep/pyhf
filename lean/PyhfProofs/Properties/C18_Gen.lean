import PyhfGen.XmlNum
import PyhfProofs.Lemmas.RealPrim
/-!
# C18 (continued) — the numbers of the XML + ROOT round trip as the code computes them *now*

`PyhfGen/XmlNum.lean` is regenerated on every C18 run: `writexml.build_sample` / `build_measurement` and `readxml.process_sample` /
`process_measurements` are executed back to back on **symbolic** yields, templates, factors, uncertainties and luminosity settings
(the ROOT file replaced by a dictionary, numbers written into XML attributes carried as tokens).  For all real values:
nominal yields, histosys templates and normsys factors come back verbatim; the bin-wise uncertainties, which travel in *relative* form
(`unc / nominal` on export, `× nominal` on import), come back exactly where the nominal yield does not vanish and as 0 where it does
(the documented loss); the luminosity centre and initial value come back verbatim, its width through `σ/c · c = σ` for `c ≠ 0`, and its
bounds are re-derived as centre ± 5σ (bounds are not part of the format).
-/
namespace Pyhf.Props.C18

variable (n0 n1 lo0 lo1 hi0 hi1 nlo nhi es0 es1 us0 us1 lc ls : ℝ)

/-- **verbatim**: nominal yields, histosys templates, normsys factors, the luminosity centre (auxiliary datum) and its initial value
come back as they were written -/
theorem gen_xml_verbatim :
    Gen.xml_rt_nominal0 n0 n1 lo0 lo1 hi0 hi1 nlo nhi es0 es1 us0 us1 lc ls = n0 ∧ Gen.xml_rt_nominal1 n0 n1 lo0 lo1 hi0 hi1 nlo nhi es0 es1 us0 us1 lc ls = n1 ∧
    Gen.xml_rt_histo_lo0 n0 n1 lo0 lo1 hi0 hi1 nlo nhi es0 es1 us0 us1 lc ls = lo0 ∧ Gen.xml_rt_histo_lo1 n0 n1 lo0 lo1 hi0 hi1 nlo nhi es0 es1 us0 us1 lc ls = lo1 ∧
    Gen.xml_rt_histo_hi0 n0 n1 lo0 lo1 hi0 hi1 nlo nhi es0 es1 us0 us1 lc ls = hi0 ∧ Gen.xml_rt_histo_hi1 n0 n1 lo0 lo1 hi0 hi1 nlo nhi es0 es1 us0 us1 lc ls = hi1 ∧
    Gen.xml_rt_norm_lo n0 n1 lo0 lo1 hi0 hi1 nlo nhi es0 es1 us0 us1 lc ls = nlo ∧ Gen.xml_rt_norm_hi n0 n1 lo0 lo1 hi0 hi1 nlo nhi es0 es1 us0 us1 lc ls = nhi ∧
    Gen.xml_rt_lumi_auxdata n0 n1 lo0 lo1 hi0 hi1 nlo nhi es0 es1 us0 us1 lc ls = lc ∧ Gen.xml_rt_lumi_init n0 n1 lo0 lo1 hi0 hi1 nlo nhi es0 es1 us0 us1 lc ls = lc :=
  ⟨rfl, rfl, rfl, rfl, rfl, rfl, rfl, rfl, rfl, rfl⟩

/-- **MC-statistical uncertainties**: recovered exactly where the nominal yield does not vanish -/
theorem gen_xml_staterror (h0 : n0 ≠ 0) (h1 : n1 ≠ 0) :
    Gen.xml_rt_staterror0 n0 n1 lo0 lo1 hi0 hi1 nlo nhi es0 es1 us0 us1 lc ls = es0 ∧
    Gen.xml_rt_staterror1 n0 n1 lo0 lo1 hi0 hi1 nlo nhi es0 es1 us0 us1 lc ls = es1 := by
  unfold Gen.xml_rt_staterror0 Gen.xml_rt_staterror1
  rw [sci_0, if_pos h0, if_pos h1]
  exact ⟨div_mul_cancel₀ es0 h0, div_mul_cancel₀ es1 h1⟩

/-- **uncorrelated-shape uncertainties**: likewise -/
theorem gen_xml_shapesys (h0 : n0 ≠ 0) (h1 : n1 ≠ 0) :
    Gen.xml_rt_shapesys0 n0 n1 lo0 lo1 hi0 hi1 nlo nhi es0 es1 us0 us1 lc ls = us0 ∧
    Gen.xml_rt_shapesys1 n0 n1 lo0 lo1 hi0 hi1 nlo nhi es0 es1 us0 us1 lc ls = us1 := by
  unfold Gen.xml_rt_shapesys0 Gen.xml_rt_shapesys1
  rw [sci_0, if_pos h0, if_pos h1]
  exact ⟨mul_div_cancel₀ us0 h0, mul_div_cancel₀ us1 h1⟩

/-- where the nominal yield vanishes the relative form cannot carry the uncertainty: 0 comes back -/
theorem gen_xml_binwise_zero_nominal :
    Gen.xml_rt_staterror0 0 n1 lo0 lo1 hi0 hi1 nlo nhi es0 es1 us0 us1 lc ls = 0 ∧
    Gen.xml_rt_shapesys0 0 n1 lo0 lo1 hi0 hi1 nlo nhi es0 es1 us0 us1 lc ls = 0 := by
  unfold Gen.xml_rt_staterror0 Gen.xml_rt_shapesys0
  rw [sci_0, if_neg (not_not.mpr rfl), if_neg (not_not.mpr rfl)]
  exact ⟨mul_zero 0, mul_zero 0⟩

/-- **luminosity**: the width is recovered (`σ/c · c`), the bounds are re-derived as centre ± 5σ -/
theorem gen_xml_lumi (hc : lc ≠ 0) :
    Gen.xml_rt_lumi_sigma n0 n1 lo0 lo1 hi0 hi1 nlo nhi es0 es1 us0 us1 lc ls = ls ∧
    Gen.xml_rt_lumi_bound_lo n0 n1 lo0 lo1 hi0 hi1 nlo nhi es0 es1 us0 us1 lc ls = lc - 5 * ls ∧
    Gen.xml_rt_lumi_bound_hi n0 n1 lo0 lo1 hi0 hi1 nlo nhi es0 es1 us0 us1 lc ls = lc + 5 * ls := by
  unfold Gen.xml_rt_lumi_sigma Gen.xml_rt_lumi_bound_lo Gen.xml_rt_lumi_bound_hi
  rw [sci_5, mul_div_cancel₀ ls hc]
  exact ⟨rfl, rfl, rfl⟩

end Pyhf.Props.C18
