import PyhfGen.Exceptions
import PyhfModel.Spec
/-!
# C20 (continued) — "a pyhf exception" refers to classes that exist *now*

`PyhfGen/Exceptions.lean` is regenerated on every C20 run from the running `pyhf.exceptions` module.  The construction-path model
(`PyhfModel/Spec.lean`, `Err`) names the failure classes of `pyhf.Model(...)`; the theorems of `C20.lean` / `C20_Reject.lean` speak of
refusals "with a pyhf exception" through `Err.isPyhf`.  Here: the classes the model marks as pyhf's own are exactly those of its
classes that `pyhf.exceptions` defines under these names, none of the Python builtins it distinguishes is shadowed by a pyhf class, and
pyhf's classes derive from `Exception` only.
-/
namespace Pyhf.Props.C20
open Pyhf.Gen

def allErrs : List Err :=
  [.invalidModel, .invalidModifier, .invalidNameReuse, .invalidSpecification, .invalidPdfParameters, .invalidPdfData,
   .pyAssertion, .pyTypeError, .pyValueError, .pyRuntimeError, .pyKeyError, .pyIndexError]

theorem allErrs_complete (e : Err) : e ∈ allErrs := by cases e <;> decide

/-- **`isPyhf` ⇔ defined in `pyhf.exceptions`**, for every failure class of the model -/
theorem gen_isPyhf_iff_defined (e : Err) : e.isPyhf = pyhfExceptionClasses.contains e.str := by cases e <;> decide

/-- pyhf's exception classes derive from `Exception` / `BaseException` only -/
theorem gen_pyhf_exceptions_plain : pyhfExceptionBases = ["BaseException", "Exception"] := by decide

end Pyhf.Props.C20
