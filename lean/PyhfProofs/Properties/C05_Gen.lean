import PyhfGen.Fit
import PyhfProofs.Properties.C05
/-!
# C05 (continued) — the fit plumbing as it is written *now*

`PyhfGen/Fit.lean` is regenerated on every C05 run: `OptimizerMixin.minimize` (through `shim`, the numpy objective wrapper,
`_internal_minimize` and `_internal_postprocess`) is executed symbolically on a four-parameter problem with a stub optimiser that
evaluates the objective at a symbolic point `x` and returns `x`; `mle.fit` and `mle.fixed_poi_fit` are executed with the optimiser
replaced by a recorder.  All initial values, bounds, fixed values and the minimiser's point are symbols, so each statement holds for
all real values.  For every list of fixed parameters tried — `none` = [], `one` = [1], `two` = [0, 3] (index order), `two_rev` = [3, 0]
(**out of order**), `three_perm` = [2, 0, 1] (a non-involutive order) — one theorem `gen_fit_<list>_stitch` and one `gen_fit_<list>_nostitch`:

* with stitching the minimiser sees exactly the free parameters (start values and bounds gathered at `variableIdx`, in index order,
  nothing to hold fixed itself), the objective is evaluated at, and `minimize` returns, the model's `stitchPars`: every fixed value at
  its own position, every free value at its own — whatever the order in which the fixed parameters are listed;
* without stitching everything is passed through and the minimiser is asked to hold the listed (index, value) pairs;
* `fit` derives the fixed pairs `fixedVals init flags`; `fixed_poi_fit` first forces the POI (`fixedPoiInputs`) and changes nothing else
  (`gen_mle_ftft`, `gen_mle_tfft`: two patterns of fixed flags, POI at index 1).

In the `_stitch` proofs the list literal handed to `stitch_eq_map` says where each parameter comes from: parameter `j` gets entry
`lit[j]` of `fixed values ++ free values`.
-/
namespace Pyhf.Props.C05
open Pyhf.Infer

variable (i0 i1 i2 i3 lo0 hi0 lo1 hi1 lo2 hi2 lo3 hi3 f0 f1 f2 f3 x0 x1 x2 x3 poival : ℝ)

theorem gen_fit_none_stitch :
    Gen.fit_none_stitch_x0 i0 i1 i2 i3 lo0 hi0 lo1 hi1 lo2 hi2 lo3 hi3 f0 f1 f2 f3 x0 x1 x2 x3 = (variableIdx 4 []).map (fun k => [i0, i1, i2, i3].getD k 0) ∧
    Gen.fit_none_stitch_bounds_lo i0 i1 i2 i3 lo0 hi0 lo1 hi1 lo2 hi2 lo3 hi3 f0 f1 f2 f3 x0 x1 x2 x3 = (variableIdx 4 []).map (fun k => [lo0, lo1, lo2, lo3].getD k 0) ∧
    Gen.fit_none_stitch_bounds_hi i0 i1 i2 i3 lo0 hi0 lo1 hi1 lo2 hi2 lo3 hi3 f0 f1 f2 f3 x0 x1 x2 x3 = (variableIdx 4 []).map (fun k => [hi0, hi1, hi2, hi3].getD k 0) ∧
    Gen.fit_none_stitch_minimizer_fixed i0 i1 i2 i3 lo0 hi0 lo1 hi1 lo2 hi2 lo3 hi3 f0 f1 f2 f3 x0 x1 x2 x3 = [] ∧
    Gen.fit_none_stitch_objective_arg i0 i1 i2 i3 lo0 hi0 lo1 hi1 lo2 hi2 lo3 hi3 f0 f1 f2 f3 x0 x1 x2 x3 = stitchPars [] (variableIdx 4 []) [] [x0, x1, x2, x3] ∧
    Gen.fit_none_stitch_result i0 i1 i2 i3 lo0 hi0 lo1 hi1 lo2 hi2 lo3 hi3 f0 f1 f2 f3 x0 x1 x2 x3 = stitchPars [] (variableIdx 4 []) [] [x0, x1, x2, x3] ∧
    Gen.fit_none_stitch_par_names = (variableIdx 4 []).map (fun k => ["p0", "p1", "p2", "p3"].getD k "") := by
  have hst : stitchPars [] (variableIdx 4 []) [] [x0, x1, x2, x3] = [x0, x1, x2, x3] :=
    stitch_eq_map _ 0 _ (List.range 4) [0, 1, 2, 3] ((variableIdx 4 []).getD · 0) ([x0, x1, x2, x3].getD · 0)
      (by decide) rfl (by decide) (by decide)
  exact ⟨rfl, rfl, rfl, rfl, hst.symm, hst.symm, rfl⟩

theorem gen_fit_none_nostitch :
    Gen.fit_none_nostitch_x0 i0 i1 i2 i3 lo0 hi0 lo1 hi1 lo2 hi2 lo3 hi3 f0 f1 f2 f3 x0 x1 x2 x3 = [i0, i1, i2, i3] ∧
    Gen.fit_none_nostitch_bounds_lo i0 i1 i2 i3 lo0 hi0 lo1 hi1 lo2 hi2 lo3 hi3 f0 f1 f2 f3 x0 x1 x2 x3 = [lo0, lo1, lo2, lo3] ∧ Gen.fit_none_nostitch_bounds_hi i0 i1 i2 i3 lo0 hi0 lo1 hi1 lo2 hi2 lo3 hi3 f0 f1 f2 f3 x0 x1 x2 x3 = [hi0, hi1, hi2, hi3] ∧
    Gen.fit_none_nostitch_minimizer_fixed i0 i1 i2 i3 lo0 hi0 lo1 hi1 lo2 hi2 lo3 hi3 f0 f1 f2 f3 x0 x1 x2 x3 = [].zip [] ∧
    Gen.fit_none_nostitch_objective_arg i0 i1 i2 i3 lo0 hi0 lo1 hi1 lo2 hi2 lo3 hi3 f0 f1 f2 f3 x0 x1 x2 x3 = [x0, x1, x2, x3] ∧ Gen.fit_none_nostitch_result i0 i1 i2 i3 lo0 hi0 lo1 hi1 lo2 hi2 lo3 hi3 f0 f1 f2 f3 x0 x1 x2 x3 = [x0, x1, x2, x3] :=
  ⟨rfl, rfl, rfl, rfl, rfl, rfl⟩

theorem gen_fit_one_stitch :
    Gen.fit_one_stitch_x0 i0 i1 i2 i3 lo0 hi0 lo1 hi1 lo2 hi2 lo3 hi3 f0 f1 f2 f3 x0 x1 x2 x3 = (variableIdx 4 [1]).map (fun k => [i0, i1, i2, i3].getD k 0) ∧
    Gen.fit_one_stitch_bounds_lo i0 i1 i2 i3 lo0 hi0 lo1 hi1 lo2 hi2 lo3 hi3 f0 f1 f2 f3 x0 x1 x2 x3 = (variableIdx 4 [1]).map (fun k => [lo0, lo1, lo2, lo3].getD k 0) ∧
    Gen.fit_one_stitch_bounds_hi i0 i1 i2 i3 lo0 hi0 lo1 hi1 lo2 hi2 lo3 hi3 f0 f1 f2 f3 x0 x1 x2 x3 = (variableIdx 4 [1]).map (fun k => [hi0, hi1, hi2, hi3].getD k 0) ∧
    Gen.fit_one_stitch_minimizer_fixed i0 i1 i2 i3 lo0 hi0 lo1 hi1 lo2 hi2 lo3 hi3 f0 f1 f2 f3 x0 x1 x2 x3 = [] ∧
    Gen.fit_one_stitch_objective_arg i0 i1 i2 i3 lo0 hi0 lo1 hi1 lo2 hi2 lo3 hi3 f0 f1 f2 f3 x0 x1 x2 x3 = stitchPars [1] (variableIdx 4 [1]) [f1] [x0, x1, x2] ∧
    Gen.fit_one_stitch_result i0 i1 i2 i3 lo0 hi0 lo1 hi1 lo2 hi2 lo3 hi3 f0 f1 f2 f3 x0 x1 x2 x3 = stitchPars [1] (variableIdx 4 [1]) [f1] [x0, x1, x2] ∧
    Gen.fit_one_stitch_par_names = (variableIdx 4 [1]).map (fun k => ["p0", "p1", "p2", "p3"].getD k "") := by
  have hst : stitchPars [1] (variableIdx 4 [1]) [f1] [x0, x1, x2] = [x0, f1, x1, x2] :=
    stitch_eq_map _ 0 _ (List.range 4) [1, 0, 2, 3] (([1] ++ variableIdx 4 [1]).getD · 0) (([f1] ++ [x0, x1, x2]).getD · 0)
      (by decide) rfl (by decide) (by decide)
  exact ⟨rfl, rfl, rfl, rfl, hst.symm, hst.symm, rfl⟩

theorem gen_fit_one_nostitch :
    Gen.fit_one_nostitch_x0 i0 i1 i2 i3 lo0 hi0 lo1 hi1 lo2 hi2 lo3 hi3 f0 f1 f2 f3 x0 x1 x2 x3 = [i0, i1, i2, i3] ∧
    Gen.fit_one_nostitch_bounds_lo i0 i1 i2 i3 lo0 hi0 lo1 hi1 lo2 hi2 lo3 hi3 f0 f1 f2 f3 x0 x1 x2 x3 = [lo0, lo1, lo2, lo3] ∧ Gen.fit_one_nostitch_bounds_hi i0 i1 i2 i3 lo0 hi0 lo1 hi1 lo2 hi2 lo3 hi3 f0 f1 f2 f3 x0 x1 x2 x3 = [hi0, hi1, hi2, hi3] ∧
    Gen.fit_one_nostitch_minimizer_fixed i0 i1 i2 i3 lo0 hi0 lo1 hi1 lo2 hi2 lo3 hi3 f0 f1 f2 f3 x0 x1 x2 x3 = [1].zip [f1] ∧
    Gen.fit_one_nostitch_objective_arg i0 i1 i2 i3 lo0 hi0 lo1 hi1 lo2 hi2 lo3 hi3 f0 f1 f2 f3 x0 x1 x2 x3 = [x0, x1, x2, x3] ∧ Gen.fit_one_nostitch_result i0 i1 i2 i3 lo0 hi0 lo1 hi1 lo2 hi2 lo3 hi3 f0 f1 f2 f3 x0 x1 x2 x3 = [x0, x1, x2, x3] :=
  ⟨rfl, rfl, rfl, rfl, rfl, rfl⟩

theorem gen_fit_two_stitch :
    Gen.fit_two_stitch_x0 i0 i1 i2 i3 lo0 hi0 lo1 hi1 lo2 hi2 lo3 hi3 f0 f1 f2 f3 x0 x1 x2 x3 = (variableIdx 4 [0, 3]).map (fun k => [i0, i1, i2, i3].getD k 0) ∧
    Gen.fit_two_stitch_bounds_lo i0 i1 i2 i3 lo0 hi0 lo1 hi1 lo2 hi2 lo3 hi3 f0 f1 f2 f3 x0 x1 x2 x3 = (variableIdx 4 [0, 3]).map (fun k => [lo0, lo1, lo2, lo3].getD k 0) ∧
    Gen.fit_two_stitch_bounds_hi i0 i1 i2 i3 lo0 hi0 lo1 hi1 lo2 hi2 lo3 hi3 f0 f1 f2 f3 x0 x1 x2 x3 = (variableIdx 4 [0, 3]).map (fun k => [hi0, hi1, hi2, hi3].getD k 0) ∧
    Gen.fit_two_stitch_minimizer_fixed i0 i1 i2 i3 lo0 hi0 lo1 hi1 lo2 hi2 lo3 hi3 f0 f1 f2 f3 x0 x1 x2 x3 = [] ∧
    Gen.fit_two_stitch_objective_arg i0 i1 i2 i3 lo0 hi0 lo1 hi1 lo2 hi2 lo3 hi3 f0 f1 f2 f3 x0 x1 x2 x3 = stitchPars [0, 3] (variableIdx 4 [0, 3]) [f0, f3] [x0, x1] ∧
    Gen.fit_two_stitch_result i0 i1 i2 i3 lo0 hi0 lo1 hi1 lo2 hi2 lo3 hi3 f0 f1 f2 f3 x0 x1 x2 x3 = stitchPars [0, 3] (variableIdx 4 [0, 3]) [f0, f3] [x0, x1] ∧
    Gen.fit_two_stitch_par_names = (variableIdx 4 [0, 3]).map (fun k => ["p0", "p1", "p2", "p3"].getD k "") := by
  have hst : stitchPars [0, 3] (variableIdx 4 [0, 3]) [f0, f3] [x0, x1] = [f0, x0, x1, f3] :=
    stitch_eq_map _ 0 _ (List.range 4) [0, 2, 3, 1] (([0, 3] ++ variableIdx 4 [0, 3]).getD · 0) (([f0, f3] ++ [x0, x1]).getD · 0)
      (by decide) rfl (by decide) (by decide)
  exact ⟨rfl, rfl, rfl, rfl, hst.symm, hst.symm, rfl⟩

theorem gen_fit_two_nostitch :
    Gen.fit_two_nostitch_x0 i0 i1 i2 i3 lo0 hi0 lo1 hi1 lo2 hi2 lo3 hi3 f0 f1 f2 f3 x0 x1 x2 x3 = [i0, i1, i2, i3] ∧
    Gen.fit_two_nostitch_bounds_lo i0 i1 i2 i3 lo0 hi0 lo1 hi1 lo2 hi2 lo3 hi3 f0 f1 f2 f3 x0 x1 x2 x3 = [lo0, lo1, lo2, lo3] ∧ Gen.fit_two_nostitch_bounds_hi i0 i1 i2 i3 lo0 hi0 lo1 hi1 lo2 hi2 lo3 hi3 f0 f1 f2 f3 x0 x1 x2 x3 = [hi0, hi1, hi2, hi3] ∧
    Gen.fit_two_nostitch_minimizer_fixed i0 i1 i2 i3 lo0 hi0 lo1 hi1 lo2 hi2 lo3 hi3 f0 f1 f2 f3 x0 x1 x2 x3 = [0, 3].zip [f0, f3] ∧
    Gen.fit_two_nostitch_objective_arg i0 i1 i2 i3 lo0 hi0 lo1 hi1 lo2 hi2 lo3 hi3 f0 f1 f2 f3 x0 x1 x2 x3 = [x0, x1, x2, x3] ∧ Gen.fit_two_nostitch_result i0 i1 i2 i3 lo0 hi0 lo1 hi1 lo2 hi2 lo3 hi3 f0 f1 f2 f3 x0 x1 x2 x3 = [x0, x1, x2, x3] :=
  ⟨rfl, rfl, rfl, rfl, rfl, rfl⟩

theorem gen_fit_two_rev_stitch :
    Gen.fit_two_rev_stitch_x0 i0 i1 i2 i3 lo0 hi0 lo1 hi1 lo2 hi2 lo3 hi3 f0 f1 f2 f3 x0 x1 x2 x3 = (variableIdx 4 [3, 0]).map (fun k => [i0, i1, i2, i3].getD k 0) ∧
    Gen.fit_two_rev_stitch_bounds_lo i0 i1 i2 i3 lo0 hi0 lo1 hi1 lo2 hi2 lo3 hi3 f0 f1 f2 f3 x0 x1 x2 x3 = (variableIdx 4 [3, 0]).map (fun k => [lo0, lo1, lo2, lo3].getD k 0) ∧
    Gen.fit_two_rev_stitch_bounds_hi i0 i1 i2 i3 lo0 hi0 lo1 hi1 lo2 hi2 lo3 hi3 f0 f1 f2 f3 x0 x1 x2 x3 = (variableIdx 4 [3, 0]).map (fun k => [hi0, hi1, hi2, hi3].getD k 0) ∧
    Gen.fit_two_rev_stitch_minimizer_fixed i0 i1 i2 i3 lo0 hi0 lo1 hi1 lo2 hi2 lo3 hi3 f0 f1 f2 f3 x0 x1 x2 x3 = [] ∧
    Gen.fit_two_rev_stitch_objective_arg i0 i1 i2 i3 lo0 hi0 lo1 hi1 lo2 hi2 lo3 hi3 f0 f1 f2 f3 x0 x1 x2 x3 = stitchPars [3, 0] (variableIdx 4 [3, 0]) [f3, f0] [x0, x1] ∧
    Gen.fit_two_rev_stitch_result i0 i1 i2 i3 lo0 hi0 lo1 hi1 lo2 hi2 lo3 hi3 f0 f1 f2 f3 x0 x1 x2 x3 = stitchPars [3, 0] (variableIdx 4 [3, 0]) [f3, f0] [x0, x1] ∧
    Gen.fit_two_rev_stitch_par_names = (variableIdx 4 [3, 0]).map (fun k => ["p0", "p1", "p2", "p3"].getD k "") := by
  have hst : stitchPars [3, 0] (variableIdx 4 [3, 0]) [f3, f0] [x0, x1] = [f0, x0, x1, f3] :=
    stitch_eq_map _ 0 _ (List.range 4) [1, 2, 3, 0] (([3, 0] ++ variableIdx 4 [3, 0]).getD · 0) (([f3, f0] ++ [x0, x1]).getD · 0)
      (by decide) rfl (by decide) (by decide)
  exact ⟨rfl, rfl, rfl, rfl, hst.symm, hst.symm, rfl⟩

theorem gen_fit_two_rev_nostitch :
    Gen.fit_two_rev_nostitch_x0 i0 i1 i2 i3 lo0 hi0 lo1 hi1 lo2 hi2 lo3 hi3 f0 f1 f2 f3 x0 x1 x2 x3 = [i0, i1, i2, i3] ∧
    Gen.fit_two_rev_nostitch_bounds_lo i0 i1 i2 i3 lo0 hi0 lo1 hi1 lo2 hi2 lo3 hi3 f0 f1 f2 f3 x0 x1 x2 x3 = [lo0, lo1, lo2, lo3] ∧ Gen.fit_two_rev_nostitch_bounds_hi i0 i1 i2 i3 lo0 hi0 lo1 hi1 lo2 hi2 lo3 hi3 f0 f1 f2 f3 x0 x1 x2 x3 = [hi0, hi1, hi2, hi3] ∧
    Gen.fit_two_rev_nostitch_minimizer_fixed i0 i1 i2 i3 lo0 hi0 lo1 hi1 lo2 hi2 lo3 hi3 f0 f1 f2 f3 x0 x1 x2 x3 = [3, 0].zip [f3, f0] ∧
    Gen.fit_two_rev_nostitch_objective_arg i0 i1 i2 i3 lo0 hi0 lo1 hi1 lo2 hi2 lo3 hi3 f0 f1 f2 f3 x0 x1 x2 x3 = [x0, x1, x2, x3] ∧ Gen.fit_two_rev_nostitch_result i0 i1 i2 i3 lo0 hi0 lo1 hi1 lo2 hi2 lo3 hi3 f0 f1 f2 f3 x0 x1 x2 x3 = [x0, x1, x2, x3] :=
  ⟨rfl, rfl, rfl, rfl, rfl, rfl⟩

theorem gen_fit_three_perm_stitch :
    Gen.fit_three_perm_stitch_x0 i0 i1 i2 i3 lo0 hi0 lo1 hi1 lo2 hi2 lo3 hi3 f0 f1 f2 f3 x0 x1 x2 x3 = (variableIdx 4 [2, 0, 1]).map (fun k => [i0, i1, i2, i3].getD k 0) ∧
    Gen.fit_three_perm_stitch_bounds_lo i0 i1 i2 i3 lo0 hi0 lo1 hi1 lo2 hi2 lo3 hi3 f0 f1 f2 f3 x0 x1 x2 x3 = (variableIdx 4 [2, 0, 1]).map (fun k => [lo0, lo1, lo2, lo3].getD k 0) ∧
    Gen.fit_three_perm_stitch_bounds_hi i0 i1 i2 i3 lo0 hi0 lo1 hi1 lo2 hi2 lo3 hi3 f0 f1 f2 f3 x0 x1 x2 x3 = (variableIdx 4 [2, 0, 1]).map (fun k => [hi0, hi1, hi2, hi3].getD k 0) ∧
    Gen.fit_three_perm_stitch_minimizer_fixed i0 i1 i2 i3 lo0 hi0 lo1 hi1 lo2 hi2 lo3 hi3 f0 f1 f2 f3 x0 x1 x2 x3 = [] ∧
    Gen.fit_three_perm_stitch_objective_arg i0 i1 i2 i3 lo0 hi0 lo1 hi1 lo2 hi2 lo3 hi3 f0 f1 f2 f3 x0 x1 x2 x3 = stitchPars [2, 0, 1] (variableIdx 4 [2, 0, 1]) [f2, f0, f1] [x0] ∧
    Gen.fit_three_perm_stitch_result i0 i1 i2 i3 lo0 hi0 lo1 hi1 lo2 hi2 lo3 hi3 f0 f1 f2 f3 x0 x1 x2 x3 = stitchPars [2, 0, 1] (variableIdx 4 [2, 0, 1]) [f2, f0, f1] [x0] ∧
    Gen.fit_three_perm_stitch_par_names = (variableIdx 4 [2, 0, 1]).map (fun k => ["p0", "p1", "p2", "p3"].getD k "") := by
  have hst : stitchPars [2, 0, 1] (variableIdx 4 [2, 0, 1]) [f2, f0, f1] [x0] = [f0, f1, f2, x0] :=
    stitch_eq_map _ 0 _ (List.range 4) [1, 2, 0, 3] (([2, 0, 1] ++ variableIdx 4 [2, 0, 1]).getD · 0) (([f2, f0, f1] ++ [x0]).getD · 0)
      (by decide) rfl (by decide) (by decide)
  exact ⟨rfl, rfl, rfl, rfl, hst.symm, hst.symm, rfl⟩

theorem gen_fit_three_perm_nostitch :
    Gen.fit_three_perm_nostitch_x0 i0 i1 i2 i3 lo0 hi0 lo1 hi1 lo2 hi2 lo3 hi3 f0 f1 f2 f3 x0 x1 x2 x3 = [i0, i1, i2, i3] ∧
    Gen.fit_three_perm_nostitch_bounds_lo i0 i1 i2 i3 lo0 hi0 lo1 hi1 lo2 hi2 lo3 hi3 f0 f1 f2 f3 x0 x1 x2 x3 = [lo0, lo1, lo2, lo3] ∧ Gen.fit_three_perm_nostitch_bounds_hi i0 i1 i2 i3 lo0 hi0 lo1 hi1 lo2 hi2 lo3 hi3 f0 f1 f2 f3 x0 x1 x2 x3 = [hi0, hi1, hi2, hi3] ∧
    Gen.fit_three_perm_nostitch_minimizer_fixed i0 i1 i2 i3 lo0 hi0 lo1 hi1 lo2 hi2 lo3 hi3 f0 f1 f2 f3 x0 x1 x2 x3 = [2, 0, 1].zip [f2, f0, f1] ∧
    Gen.fit_three_perm_nostitch_objective_arg i0 i1 i2 i3 lo0 hi0 lo1 hi1 lo2 hi2 lo3 hi3 f0 f1 f2 f3 x0 x1 x2 x3 = [x0, x1, x2, x3] ∧ Gen.fit_three_perm_nostitch_result i0 i1 i2 i3 lo0 hi0 lo1 hi1 lo2 hi2 lo3 hi3 f0 f1 f2 f3 x0 x1 x2 x3 = [x0, x1, x2, x3] :=
  ⟨rfl, rfl, rfl, rfl, rfl, rfl⟩

theorem gen_mle_ftft :
    Gen.mle_fit_ftft_fixed_vals i0 i1 i2 i3 poival = fixedVals [i0, i1, i2, i3] [false, true, false, true] ∧
    Gen.mle_fit_ftft_init i0 i1 i2 i3 poival = [i0, i1, i2, i3] ∧
    Gen.mle_fixed_poi_fit_ftft_init i0 i1 i2 i3 poival = (fixedPoiInputs [i0, i1, i2, i3] [false, true, false, true] 1 poival).1 ∧
    Gen.mle_fixed_poi_fit_ftft_fixed_vals i0 i1 i2 i3 poival
      = fixedVals (fixedPoiInputs [i0, i1, i2, i3] [false, true, false, true] 1 poival).1 (fixedPoiInputs [i0, i1, i2, i3] [false, true, false, true] 1 poival).2 := by
  refine ⟨?_, ?_, ?_, ?_⟩ <;> rfl

theorem gen_mle_tfft :
    Gen.mle_fit_tfft_fixed_vals i0 i1 i2 i3 poival = fixedVals [i0, i1, i2, i3] [true, false, false, true] ∧
    Gen.mle_fit_tfft_init i0 i1 i2 i3 poival = [i0, i1, i2, i3] ∧
    Gen.mle_fixed_poi_fit_tfft_init i0 i1 i2 i3 poival = (fixedPoiInputs [i0, i1, i2, i3] [true, false, false, true] 1 poival).1 ∧
    Gen.mle_fixed_poi_fit_tfft_fixed_vals i0 i1 i2 i3 poival
      = fixedVals (fixedPoiInputs [i0, i1, i2, i3] [true, false, false, true] 1 poival).1 (fixedPoiInputs [i0, i1, i2, i3] [true, false, false, true] 1 poival).2 := by
  refine ⟨?_, ?_, ?_, ?_⟩ <;> rfl

end Pyhf.Props.C05
