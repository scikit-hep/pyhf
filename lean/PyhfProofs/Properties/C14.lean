import PyhfModel.Infer
import Mathlib.Data.Real.Basic
import Mathlib.Data.List.Basic
import Mathlib.Tactic.Linarith
/-!
# C14 — toy p-values are exact tail fractions
`empiricalCounts samples v = (#{s | v ≤ s}, #samples)`; the reported p-value is their quotient.
-/
namespace Pyhf.Props.C14
open Pyhf.Infer

/-- the numerator counts exactly the samples greater than or equal to the observed value (ties included) -/
theorem pvalue_is_fraction (samples : List ℝ) (v : ℝ) :
    empiricalCounts samples v = (samples.countP (fun s => decide (v ≤ s)), samples.length) := by
  simp [empiricalCounts, List.countP_eq_length_filter]

/-- hence the p-value lies in `[0, 1]` -/
theorem pvalue_in_unit_interval (samples : List ℝ) (v : ℝ) :
    (empiricalCounts samples v).1 ≤ (empiricalCounts samples v).2 := by
  rw [pvalue_is_fraction]; exact List.countP_le_length

/-- the p-value never increases with the observed value (same denominator, smaller or equal numerator) -/
theorem pvalue_antitone (samples : List ℝ) (v w : ℝ) (h : v ≤ w) :
    (empiricalCounts samples w).1 ≤ (empiricalCounts samples v).1 := by
  simp only [pvalue_is_fraction]
  exact List.countP_mono_left fun s _ hs => decide_eq_true (h.trans (of_decide_eq_true hs))

/-- ties are counted: a sample equal to the observed value is in the tail -/
theorem pvalue_ties_inclusive (samples : List ℝ) (v : ℝ) (h : v ∈ samples) : 0 < (empiricalCounts samples v).1 := by
  rw [pvalue_is_fraction]; exact List.countP_pos_iff.mpr ⟨v, h, decide_eq_true le_rfl⟩

/-- a value above every sample has p-value 0, a value at or below every sample has p-value 1 -/
theorem pvalue_extremes (samples : List ℝ) (v : ℝ) :
    ((∀ s ∈ samples, s < v) → (empiricalCounts samples v).1 = 0) ∧
    ((∀ s ∈ samples, v ≤ s) → (empiricalCounts samples v).1 = samples.length) := by
  simp only [pvalue_is_fraction, List.countP_eq_zero, List.countP_eq_length, decide_eq_true_eq, not_le]
  exact ⟨id, id⟩

/-- the tail fraction does not depend on the order in which the toys were generated -/
theorem pvalue_perm_invariant (samples samples' : List ℝ) (v : ℝ) (h : samples.Perm samples') :
    empiricalCounts samples v = empiricalCounts samples' v := by
  rw [pvalue_is_fraction, pvalue_is_fraction, h.countP_eq, h.length_eq]

/-- toys generated in batches: numerators and denominators add -/
theorem pvalue_batches (a b : List ℝ) (v : ℝ) :
    empiricalCounts (a ++ b) v =
      ((empiricalCounts a v).1 + (empiricalCounts b v).1, (empiricalCounts a v).2 + (empiricalCounts b v).2) := by
  simp only [pvalue_is_fraction, List.countP_append, List.length_append]

/-- strictness: raising the observed value past a sample strictly lowers the numerator (`≥`, not `>`, on the lower side) -/
theorem pvalue_strict_drop (samples : List ℝ) (v w s : ℝ) (hs : s ∈ samples) (h1 : v ≤ s) (h2 : s < w) :
    (empiricalCounts samples w).1 < (empiricalCounts samples v).1 := by
  -- the tail from `w` is a sublist of the tail from `v`, and `s` is in the latter only
  have hsub : List.Sublist (samples.filter fun t => decide (w ≤ t)) (samples.filter fun t => decide (v ≤ t)) :=
    List.monotone_filter_right _ fun t ht => by
      simp only [decide_eq_true_eq] at ht ⊢; linarith
  refine lt_of_le_of_ne hsub.length_le fun e => ?_
  have hmem : s ∈ samples.filter fun t => decide (v ≤ t) := List.mem_filter.mpr ⟨hs, by simpa using h1⟩
  rw [← hsub.eq_of_length e] at hmem
  exact absurd (by simpa using (List.mem_filter.mp hmem).2) (not_le.mpr h2)

example : (empiricalCounts [1, 2, 2, 3] (2.5 : ℝ)).1 < (empiricalCounts [1, 2, 2, 3] (2 : ℝ)).1 :=
  pvalue_strict_drop _ _ _ 2 (by simp) (le_refl _) (by norm_num)

/-- **toy wiring**: signal-like pseudo-data are generated at the conditional fit of the tested `μ`,
background-like ones at the conditional fit of `μ = 0` (`μ = 1` for the discovery statistic) -/
theorem toy_wiring (ts : TestStat) (poiTest : ℝ) :
    toyFitMus ts poiTest = (poiTest, if ts = .q0 then 1 else 0) := by
  cases ts <;> simp [toyFitMus]

end Pyhf.Props.C14
