import PyhfGen.Ws
import PyhfProofs.Lemmas.GenNorm
/-!
# C16 (continued) — likelihood relations of `Workspace.rename / prune / combine / sorted`, on the production code

`PyhfGen/Ws.lean` is regenerated on every C16 run (`harness/gen_ws.py`): one base workspace — two channels with different sample
sets, a normalisation systematic and a free normalisation shared across channels and samples, an MC-statistical uncertainty, the
signal strength as POI, one measurement — with **all yields, variations, uncertainties and observations symbolic** is pushed through
the real `pyhf.Workspace` methods; for every resulting workspace `Workspace.model()` and `Model.logpdf(pars, Workspace.data(model))`
are executed with symbolic parameters (the two log-density primitives uninterpreted).  Parameters are identified **by name**: each
generated function takes the parameters under the name they have in the base workspace.

The theorems hold for all real values of every symbol (positive yields are only what the translator's decisions assume):
reordering, sorting and renaming change nothing; the two halves obtained by pruning a channel each, joined again, give the base
likelihood; pruning a channel removes exactly that channel's Poisson factor; pruning a systematic = fixing its parameter at the
nominal value (up to its constant constraint term); pruning the signal sample = signal strength 0.
-/
namespace Pyhf.Props.C16

variable (lpois : ℝ → ℝ → ℝ) (lnorm : ℝ → ℝ → ℝ → ℝ)
variable (c0 clo chi s0 s1 slo shi b0 b1 e0 e1 oc0 os0 os1 sa0 sa1 sb0 sb1 k_bkg mu sysA stat0 stat1 nullsys : ℝ)

/-- **listing order**: the workspace listed in reverse order everywhere has the same likelihood -/
theorem ws_shuffled_eq :
    Gen.ws_shuf_logpdf realPrim lpois lnorm c0 clo chi s0 s1 slo shi b0 b1 e0 e1 oc0 os0 os1 sa0 sa1 sb0 sb1 k_bkg mu sysA stat0 stat1 nullsys
      = Gen.ws_base_logpdf realPrim lpois lnorm c0 clo chi s0 s1 slo shi b0 b1 e0 e1 oc0 os0 os1 sa0 sa1 sb0 sb1 k_bkg mu sysA stat0 stat1 nullsys := by
  rfl

/-- **`Workspace.sorted`** of the reversed workspace has the same likelihood -/
theorem ws_sorted_eq :
    Gen.ws_sorted_logpdf realPrim lpois lnorm c0 clo chi s0 s1 slo shi b0 b1 e0 e1 oc0 os0 os1 sa0 sa1 sb0 sb1 k_bkg mu sysA stat0 stat1 nullsys
      = Gen.ws_base_logpdf realPrim lpois lnorm c0 clo chi s0 s1 slo shi b0 b1 e0 e1 oc0 os0 os1 sa0 sa1 sb0 sb1 k_bkg mu sysA stat0 stat1 nullsys := by
  rfl

/-- **`Workspace.rename`** of channels, samples and modifiers (new names chosen so that the channel order, the sample order and the
parameter order all change): the same likelihood, parameters identified through the renaming -/
theorem ws_rename_eq :
    Gen.ws_ren_logpdf realPrim lpois lnorm c0 clo chi s0 s1 slo shi b0 b1 e0 e1 oc0 os0 os1 sa0 sa1 sb0 sb1 k_bkg mu sysA stat0 stat1 nullsys
      = Gen.ws_base_logpdf realPrim lpois lnorm c0 clo chi s0 s1 slo shi b0 b1 e0 e1 oc0 os0 os1 sa0 sa1 sb0 sb1 k_bkg mu sysA stat0 stat1 nullsys := by
  unfold Gen.ws_ren_logpdf Gen.ws_base_logpdf
  -- the same terms, summed in another order (also inside the rates and the MC-statistical widths)
  rcases code4_regimes one_pos sysA with h | h | h <;> simp only [gen_norm, h] <;> ac_rfl

/-- **`Workspace.combine`** of the two single-channel halves (outer join; the shared measurement is identical) gives the base likelihood -/
theorem ws_combine_halves_eq :
    Gen.ws_comb_logpdf realPrim lpois lnorm c0 clo chi s0 s1 slo shi b0 b1 e0 e1 oc0 os0 os1 sa0 sa1 sb0 sb1 k_bkg mu sysA stat0 stat1 nullsys
      = Gen.ws_base_logpdf realPrim lpois lnorm c0 clo chi s0 s1 slo shi b0 b1 e0 e1 oc0 os0 os1 sa0 sa1 sb0 sb1 k_bkg mu sysA stat0 stat1 nullsys := by
  rfl

/-- **pruning a channel** removes exactly that channel's Poisson factor: base = (workspace without CR) + main likelihood of CR alone,
parameters shared by name -/
theorem ws_prune_channel :
    Gen.ws_base_logpdf realPrim lpois lnorm c0 clo chi s0 s1 slo shi b0 b1 e0 e1 oc0 os0 os1 sa0 sa1 sb0 sb1 k_bkg mu sysA stat0 stat1 nullsys
      = Gen.ws_prCR_logpdf realPrim lpois lnorm c0 clo chi s0 s1 slo shi b0 b1 e0 e1 oc0 os0 os1 sa0 sa1 sb0 sb1 k_bkg mu sysA stat0 stat1 nullsys
        + Gen.ws_prSR_main realPrim lpois lnorm c0 clo chi s0 s1 slo shi b0 b1 e0 e1 oc0 os0 os1 sa0 sa1 sb0 sb1 k_bkg mu sysA stat0 stat1 nullsys := by
  unfold Gen.ws_base_logpdf Gen.ws_prCR_logpdf Gen.ws_prSR_main
  rcases code4_regimes one_pos sysA with h | h | h <;> simp only [gen_norm, h] <;> ring1

/-- **main likelihood additive over the combined halves**, constraint terms counted once -/
theorem ws_combine_main_additive :
    Gen.ws_comb_logpdf realPrim lpois lnorm c0 clo chi s0 s1 slo shi b0 b1 e0 e1 oc0 os0 os1 sa0 sa1 sb0 sb1 k_bkg mu sysA stat0 stat1 nullsys
      = Gen.ws_prSR_main realPrim lpois lnorm c0 clo chi s0 s1 slo shi b0 b1 e0 e1 oc0 os0 os1 sa0 sa1 sb0 sb1 k_bkg mu sysA stat0 stat1 nullsys
        + Gen.ws_prCR_main realPrim lpois lnorm c0 clo chi s0 s1 slo shi b0 b1 e0 e1 oc0 os0 os1 sa0 sa1 sb0 sb1 k_bkg mu sysA stat0 stat1 nullsys
        + (Gen.ws_prCR_logpdf realPrim lpois lnorm c0 clo chi s0 s1 slo shi b0 b1 e0 e1 oc0 os0 os1 sa0 sa1 sb0 sb1 k_bkg mu sysA stat0 stat1 nullsys
            - Gen.ws_prCR_main realPrim lpois lnorm c0 clo chi s0 s1 slo shi b0 b1 e0 e1 oc0 os0 os1 sa0 sa1 sb0 sb1 k_bkg mu sysA stat0 stat1 nullsys) := by
  rw [ws_combine_halves_eq, ws_prune_channel]; ring

/-- the single-channel half keeps the constraint of the systematic it still uses -/
theorem ws_pruned_half_constraint :
    Gen.ws_prSR_logpdf realPrim lpois lnorm c0 clo chi s0 s1 slo shi b0 b1 e0 e1 oc0 os0 os1 sa0 sa1 sb0 sb1 k_bkg mu sysA stat0 stat1 nullsys
      = Gen.ws_prSR_main realPrim lpois lnorm c0 clo chi s0 s1 slo shi b0 b1 e0 e1 oc0 os0 os1 sa0 sa1 sb0 sb1 k_bkg mu sysA stat0 stat1 nullsys
        + lnorm 0 sysA 1 := by
  unfold Gen.ws_prSR_logpdf Gen.ws_prSR_main
  rcases code4_regimes one_pos sysA with h | h | h <;> simp only [gen_norm, h]

/-- **pruning a systematic** = fixing its parameter at the nominal value 0, up to its (constant) constraint term -/
theorem ws_prune_modifier :
    Gen.ws_base_logpdf realPrim lpois lnorm c0 clo chi s0 s1 slo shi b0 b1 e0 e1 oc0 os0 os1 sa0 sa1 sb0 sb1 k_bkg mu 0 stat0 stat1 nullsys
      = Gen.ws_prSys_logpdf realPrim lpois lnorm c0 clo chi s0 s1 slo shi b0 b1 e0 e1 oc0 os0 os1 sa0 sa1 sb0 sb1 k_bkg mu sysA stat0 stat1 nullsys
        + lnorm 0 0 1 := by
  unfold Gen.ws_base_logpdf Gen.ws_prSys_logpdf
  have h : ¬ (1 : ℝ) ≤ 0 ∧ (-1 : ℝ) < 0 ∧ ¬ 1 ≤ absK (0 : ℝ) := by norm_num [absK]
  simp only [gen_norm, h, Interp.poly6_zero]
  ring1

/-- **pruning the signal sample** = signal strength 0 -/
theorem ws_prune_sample :
    Gen.ws_base_logpdf realPrim lpois lnorm c0 clo chi s0 s1 slo shi b0 b1 e0 e1 oc0 os0 os1 sa0 sa1 sb0 sb1 k_bkg 0 sysA stat0 stat1 nullsys
      = Gen.ws_prSig_logpdf realPrim lpois lnorm c0 clo chi s0 s1 slo shi b0 b1 e0 e1 oc0 os0 os1 sa0 sa1 sb0 sb1 k_bkg mu sysA stat0 stat1 nullsys := by
  unfold Gen.ws_base_logpdf Gen.ws_prSig_logpdf
  -- at `μ = 0` the signal's rate and its share of the MC-statistical width vanish
  rcases code4_regimes one_pos sysA with h | h | h <;>
    simp only [gen_norm, h, zero_mul, zero_div, ne_eq, OfNat.ofNat_ne_zero, not_false_eq_true, zero_pow]

end Pyhf.Props.C16
