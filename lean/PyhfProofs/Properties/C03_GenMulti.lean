import PyhfGen.InterpMulti
import PyhfProofs.Properties.C03_Gen
/-!
# C03 (continued) — the vectorised interpolators on a multi-cell histogram set

`PyhfGen/InterpMulti.lean` is regenerated on every C03 run: each vectorised class `codeK` is constructed on a histogram set of shape
(2 systematics, 2 samples, 3, 2 bins) with all entries symbolic and called on a (2 systematics × 2 rows) alpha set (code 4: one row), so
the mask broadcasting, the einsum index strings and the batch axis are executed.  One theorem per entry [s, h, t, b] of the result: it
equals the scalar model function of **its own cell** — down / nominal / up of (systematic s, sample h, bin b) and the alpha of
(systematic s, row t) — for all real values of all 24 + 4 inputs.  No other entry of the histogram set or of the alpha set can
influence it: an interpolator that reads the wrong systematic's alpha, the wrong row, or another sample's or bin's variation breaks the
corresponding equality.  (The statements are mechanical; `python -m harness.gen_interp_multi --theorems` prints this file.)
-/
namespace Pyhf.Props.C03
open Pyhf.Interp


/-! ### code0: 2×2×2×2 entries -/

theorem multi_code0_0000_eq (d000 d001 d010 d011 d100 d101 d110 d111 n000 n001 n010 n011 n100 n101 n110 n111 u000 u001 u010 u011 u100 u101 u110 u111 a00 a01 a10 a11 : ℝ) :
    Gen.multi_code0_0000 realPrim d000 d001 d010 d011 d100 d101 d110 d111 n000 n001 n010 n011 n100 n101 n110 n111 u000 u001 u010 u011 u100 u101 u110 u111 a00 a01 a10 a11 = slow0 d000 n000 u000 a00 :=
  gen_fast_code0_eq _ _ _ _

theorem multi_code0_0001_eq (d000 d001 d010 d011 d100 d101 d110 d111 n000 n001 n010 n011 n100 n101 n110 n111 u000 u001 u010 u011 u100 u101 u110 u111 a00 a01 a10 a11 : ℝ) :
    Gen.multi_code0_0001 realPrim d000 d001 d010 d011 d100 d101 d110 d111 n000 n001 n010 n011 n100 n101 n110 n111 u000 u001 u010 u011 u100 u101 u110 u111 a00 a01 a10 a11 = slow0 d001 n001 u001 a00 :=
  gen_fast_code0_eq _ _ _ _

theorem multi_code0_0010_eq (d000 d001 d010 d011 d100 d101 d110 d111 n000 n001 n010 n011 n100 n101 n110 n111 u000 u001 u010 u011 u100 u101 u110 u111 a00 a01 a10 a11 : ℝ) :
    Gen.multi_code0_0010 realPrim d000 d001 d010 d011 d100 d101 d110 d111 n000 n001 n010 n011 n100 n101 n110 n111 u000 u001 u010 u011 u100 u101 u110 u111 a00 a01 a10 a11 = slow0 d000 n000 u000 a01 :=
  gen_fast_code0_eq _ _ _ _

theorem multi_code0_0011_eq (d000 d001 d010 d011 d100 d101 d110 d111 n000 n001 n010 n011 n100 n101 n110 n111 u000 u001 u010 u011 u100 u101 u110 u111 a00 a01 a10 a11 : ℝ) :
    Gen.multi_code0_0011 realPrim d000 d001 d010 d011 d100 d101 d110 d111 n000 n001 n010 n011 n100 n101 n110 n111 u000 u001 u010 u011 u100 u101 u110 u111 a00 a01 a10 a11 = slow0 d001 n001 u001 a01 :=
  gen_fast_code0_eq _ _ _ _

theorem multi_code0_0100_eq (d000 d001 d010 d011 d100 d101 d110 d111 n000 n001 n010 n011 n100 n101 n110 n111 u000 u001 u010 u011 u100 u101 u110 u111 a00 a01 a10 a11 : ℝ) :
    Gen.multi_code0_0100 realPrim d000 d001 d010 d011 d100 d101 d110 d111 n000 n001 n010 n011 n100 n101 n110 n111 u000 u001 u010 u011 u100 u101 u110 u111 a00 a01 a10 a11 = slow0 d010 n010 u010 a00 :=
  gen_fast_code0_eq _ _ _ _

theorem multi_code0_0101_eq (d000 d001 d010 d011 d100 d101 d110 d111 n000 n001 n010 n011 n100 n101 n110 n111 u000 u001 u010 u011 u100 u101 u110 u111 a00 a01 a10 a11 : ℝ) :
    Gen.multi_code0_0101 realPrim d000 d001 d010 d011 d100 d101 d110 d111 n000 n001 n010 n011 n100 n101 n110 n111 u000 u001 u010 u011 u100 u101 u110 u111 a00 a01 a10 a11 = slow0 d011 n011 u011 a00 :=
  gen_fast_code0_eq _ _ _ _

theorem multi_code0_0110_eq (d000 d001 d010 d011 d100 d101 d110 d111 n000 n001 n010 n011 n100 n101 n110 n111 u000 u001 u010 u011 u100 u101 u110 u111 a00 a01 a10 a11 : ℝ) :
    Gen.multi_code0_0110 realPrim d000 d001 d010 d011 d100 d101 d110 d111 n000 n001 n010 n011 n100 n101 n110 n111 u000 u001 u010 u011 u100 u101 u110 u111 a00 a01 a10 a11 = slow0 d010 n010 u010 a01 :=
  gen_fast_code0_eq _ _ _ _

theorem multi_code0_0111_eq (d000 d001 d010 d011 d100 d101 d110 d111 n000 n001 n010 n011 n100 n101 n110 n111 u000 u001 u010 u011 u100 u101 u110 u111 a00 a01 a10 a11 : ℝ) :
    Gen.multi_code0_0111 realPrim d000 d001 d010 d011 d100 d101 d110 d111 n000 n001 n010 n011 n100 n101 n110 n111 u000 u001 u010 u011 u100 u101 u110 u111 a00 a01 a10 a11 = slow0 d011 n011 u011 a01 :=
  gen_fast_code0_eq _ _ _ _

theorem multi_code0_1000_eq (d000 d001 d010 d011 d100 d101 d110 d111 n000 n001 n010 n011 n100 n101 n110 n111 u000 u001 u010 u011 u100 u101 u110 u111 a00 a01 a10 a11 : ℝ) :
    Gen.multi_code0_1000 realPrim d000 d001 d010 d011 d100 d101 d110 d111 n000 n001 n010 n011 n100 n101 n110 n111 u000 u001 u010 u011 u100 u101 u110 u111 a00 a01 a10 a11 = slow0 d100 n100 u100 a10 :=
  gen_fast_code0_eq _ _ _ _

theorem multi_code0_1001_eq (d000 d001 d010 d011 d100 d101 d110 d111 n000 n001 n010 n011 n100 n101 n110 n111 u000 u001 u010 u011 u100 u101 u110 u111 a00 a01 a10 a11 : ℝ) :
    Gen.multi_code0_1001 realPrim d000 d001 d010 d011 d100 d101 d110 d111 n000 n001 n010 n011 n100 n101 n110 n111 u000 u001 u010 u011 u100 u101 u110 u111 a00 a01 a10 a11 = slow0 d101 n101 u101 a10 :=
  gen_fast_code0_eq _ _ _ _

theorem multi_code0_1010_eq (d000 d001 d010 d011 d100 d101 d110 d111 n000 n001 n010 n011 n100 n101 n110 n111 u000 u001 u010 u011 u100 u101 u110 u111 a00 a01 a10 a11 : ℝ) :
    Gen.multi_code0_1010 realPrim d000 d001 d010 d011 d100 d101 d110 d111 n000 n001 n010 n011 n100 n101 n110 n111 u000 u001 u010 u011 u100 u101 u110 u111 a00 a01 a10 a11 = slow0 d100 n100 u100 a11 :=
  gen_fast_code0_eq _ _ _ _

theorem multi_code0_1011_eq (d000 d001 d010 d011 d100 d101 d110 d111 n000 n001 n010 n011 n100 n101 n110 n111 u000 u001 u010 u011 u100 u101 u110 u111 a00 a01 a10 a11 : ℝ) :
    Gen.multi_code0_1011 realPrim d000 d001 d010 d011 d100 d101 d110 d111 n000 n001 n010 n011 n100 n101 n110 n111 u000 u001 u010 u011 u100 u101 u110 u111 a00 a01 a10 a11 = slow0 d101 n101 u101 a11 :=
  gen_fast_code0_eq _ _ _ _

theorem multi_code0_1100_eq (d000 d001 d010 d011 d100 d101 d110 d111 n000 n001 n010 n011 n100 n101 n110 n111 u000 u001 u010 u011 u100 u101 u110 u111 a00 a01 a10 a11 : ℝ) :
    Gen.multi_code0_1100 realPrim d000 d001 d010 d011 d100 d101 d110 d111 n000 n001 n010 n011 n100 n101 n110 n111 u000 u001 u010 u011 u100 u101 u110 u111 a00 a01 a10 a11 = slow0 d110 n110 u110 a10 :=
  gen_fast_code0_eq _ _ _ _

theorem multi_code0_1101_eq (d000 d001 d010 d011 d100 d101 d110 d111 n000 n001 n010 n011 n100 n101 n110 n111 u000 u001 u010 u011 u100 u101 u110 u111 a00 a01 a10 a11 : ℝ) :
    Gen.multi_code0_1101 realPrim d000 d001 d010 d011 d100 d101 d110 d111 n000 n001 n010 n011 n100 n101 n110 n111 u000 u001 u010 u011 u100 u101 u110 u111 a00 a01 a10 a11 = slow0 d111 n111 u111 a10 :=
  gen_fast_code0_eq _ _ _ _

theorem multi_code0_1110_eq (d000 d001 d010 d011 d100 d101 d110 d111 n000 n001 n010 n011 n100 n101 n110 n111 u000 u001 u010 u011 u100 u101 u110 u111 a00 a01 a10 a11 : ℝ) :
    Gen.multi_code0_1110 realPrim d000 d001 d010 d011 d100 d101 d110 d111 n000 n001 n010 n011 n100 n101 n110 n111 u000 u001 u010 u011 u100 u101 u110 u111 a00 a01 a10 a11 = slow0 d110 n110 u110 a11 :=
  gen_fast_code0_eq _ _ _ _

theorem multi_code0_1111_eq (d000 d001 d010 d011 d100 d101 d110 d111 n000 n001 n010 n011 n100 n101 n110 n111 u000 u001 u010 u011 u100 u101 u110 u111 a00 a01 a10 a11 : ℝ) :
    Gen.multi_code0_1111 realPrim d000 d001 d010 d011 d100 d101 d110 d111 n000 n001 n010 n011 n100 n101 n110 n111 u000 u001 u010 u011 u100 u101 u110 u111 a00 a01 a10 a11 = slow0 d111 n111 u111 a11 :=
  gen_fast_code0_eq _ _ _ _

/-! ### code1: 2×2×2×2 entries -/

theorem multi_code1_0000_eq (d000 d001 d010 d011 d100 d101 d110 d111 n000 n001 n010 n011 n100 n101 n110 n111 u000 u001 u010 u011 u100 u101 u110 u111 a00 a01 a10 a11 : ℝ) :
    Gen.multi_code1_0000 realPrim d000 d001 d010 d011 d100 d101 d110 d111 n000 n001 n010 n011 n100 n101 n110 n111 u000 u001 u010 u011 u100 u101 u110 u111 a00 a01 a10 a11 = slow1 realPrim d000 n000 u000 a00 :=
  gen_fast_code1_eq _ _ _ _

theorem multi_code1_0001_eq (d000 d001 d010 d011 d100 d101 d110 d111 n000 n001 n010 n011 n100 n101 n110 n111 u000 u001 u010 u011 u100 u101 u110 u111 a00 a01 a10 a11 : ℝ) :
    Gen.multi_code1_0001 realPrim d000 d001 d010 d011 d100 d101 d110 d111 n000 n001 n010 n011 n100 n101 n110 n111 u000 u001 u010 u011 u100 u101 u110 u111 a00 a01 a10 a11 = slow1 realPrim d001 n001 u001 a00 :=
  gen_fast_code1_eq _ _ _ _

theorem multi_code1_0010_eq (d000 d001 d010 d011 d100 d101 d110 d111 n000 n001 n010 n011 n100 n101 n110 n111 u000 u001 u010 u011 u100 u101 u110 u111 a00 a01 a10 a11 : ℝ) :
    Gen.multi_code1_0010 realPrim d000 d001 d010 d011 d100 d101 d110 d111 n000 n001 n010 n011 n100 n101 n110 n111 u000 u001 u010 u011 u100 u101 u110 u111 a00 a01 a10 a11 = slow1 realPrim d000 n000 u000 a01 :=
  gen_fast_code1_eq _ _ _ _

theorem multi_code1_0011_eq (d000 d001 d010 d011 d100 d101 d110 d111 n000 n001 n010 n011 n100 n101 n110 n111 u000 u001 u010 u011 u100 u101 u110 u111 a00 a01 a10 a11 : ℝ) :
    Gen.multi_code1_0011 realPrim d000 d001 d010 d011 d100 d101 d110 d111 n000 n001 n010 n011 n100 n101 n110 n111 u000 u001 u010 u011 u100 u101 u110 u111 a00 a01 a10 a11 = slow1 realPrim d001 n001 u001 a01 :=
  gen_fast_code1_eq _ _ _ _

theorem multi_code1_0100_eq (d000 d001 d010 d011 d100 d101 d110 d111 n000 n001 n010 n011 n100 n101 n110 n111 u000 u001 u010 u011 u100 u101 u110 u111 a00 a01 a10 a11 : ℝ) :
    Gen.multi_code1_0100 realPrim d000 d001 d010 d011 d100 d101 d110 d111 n000 n001 n010 n011 n100 n101 n110 n111 u000 u001 u010 u011 u100 u101 u110 u111 a00 a01 a10 a11 = slow1 realPrim d010 n010 u010 a00 :=
  gen_fast_code1_eq _ _ _ _

theorem multi_code1_0101_eq (d000 d001 d010 d011 d100 d101 d110 d111 n000 n001 n010 n011 n100 n101 n110 n111 u000 u001 u010 u011 u100 u101 u110 u111 a00 a01 a10 a11 : ℝ) :
    Gen.multi_code1_0101 realPrim d000 d001 d010 d011 d100 d101 d110 d111 n000 n001 n010 n011 n100 n101 n110 n111 u000 u001 u010 u011 u100 u101 u110 u111 a00 a01 a10 a11 = slow1 realPrim d011 n011 u011 a00 :=
  gen_fast_code1_eq _ _ _ _

theorem multi_code1_0110_eq (d000 d001 d010 d011 d100 d101 d110 d111 n000 n001 n010 n011 n100 n101 n110 n111 u000 u001 u010 u011 u100 u101 u110 u111 a00 a01 a10 a11 : ℝ) :
    Gen.multi_code1_0110 realPrim d000 d001 d010 d011 d100 d101 d110 d111 n000 n001 n010 n011 n100 n101 n110 n111 u000 u001 u010 u011 u100 u101 u110 u111 a00 a01 a10 a11 = slow1 realPrim d010 n010 u010 a01 :=
  gen_fast_code1_eq _ _ _ _

theorem multi_code1_0111_eq (d000 d001 d010 d011 d100 d101 d110 d111 n000 n001 n010 n011 n100 n101 n110 n111 u000 u001 u010 u011 u100 u101 u110 u111 a00 a01 a10 a11 : ℝ) :
    Gen.multi_code1_0111 realPrim d000 d001 d010 d011 d100 d101 d110 d111 n000 n001 n010 n011 n100 n101 n110 n111 u000 u001 u010 u011 u100 u101 u110 u111 a00 a01 a10 a11 = slow1 realPrim d011 n011 u011 a01 :=
  gen_fast_code1_eq _ _ _ _

theorem multi_code1_1000_eq (d000 d001 d010 d011 d100 d101 d110 d111 n000 n001 n010 n011 n100 n101 n110 n111 u000 u001 u010 u011 u100 u101 u110 u111 a00 a01 a10 a11 : ℝ) :
    Gen.multi_code1_1000 realPrim d000 d001 d010 d011 d100 d101 d110 d111 n000 n001 n010 n011 n100 n101 n110 n111 u000 u001 u010 u011 u100 u101 u110 u111 a00 a01 a10 a11 = slow1 realPrim d100 n100 u100 a10 :=
  gen_fast_code1_eq _ _ _ _

theorem multi_code1_1001_eq (d000 d001 d010 d011 d100 d101 d110 d111 n000 n001 n010 n011 n100 n101 n110 n111 u000 u001 u010 u011 u100 u101 u110 u111 a00 a01 a10 a11 : ℝ) :
    Gen.multi_code1_1001 realPrim d000 d001 d010 d011 d100 d101 d110 d111 n000 n001 n010 n011 n100 n101 n110 n111 u000 u001 u010 u011 u100 u101 u110 u111 a00 a01 a10 a11 = slow1 realPrim d101 n101 u101 a10 :=
  gen_fast_code1_eq _ _ _ _

theorem multi_code1_1010_eq (d000 d001 d010 d011 d100 d101 d110 d111 n000 n001 n010 n011 n100 n101 n110 n111 u000 u001 u010 u011 u100 u101 u110 u111 a00 a01 a10 a11 : ℝ) :
    Gen.multi_code1_1010 realPrim d000 d001 d010 d011 d100 d101 d110 d111 n000 n001 n010 n011 n100 n101 n110 n111 u000 u001 u010 u011 u100 u101 u110 u111 a00 a01 a10 a11 = slow1 realPrim d100 n100 u100 a11 :=
  gen_fast_code1_eq _ _ _ _

theorem multi_code1_1011_eq (d000 d001 d010 d011 d100 d101 d110 d111 n000 n001 n010 n011 n100 n101 n110 n111 u000 u001 u010 u011 u100 u101 u110 u111 a00 a01 a10 a11 : ℝ) :
    Gen.multi_code1_1011 realPrim d000 d001 d010 d011 d100 d101 d110 d111 n000 n001 n010 n011 n100 n101 n110 n111 u000 u001 u010 u011 u100 u101 u110 u111 a00 a01 a10 a11 = slow1 realPrim d101 n101 u101 a11 :=
  gen_fast_code1_eq _ _ _ _

theorem multi_code1_1100_eq (d000 d001 d010 d011 d100 d101 d110 d111 n000 n001 n010 n011 n100 n101 n110 n111 u000 u001 u010 u011 u100 u101 u110 u111 a00 a01 a10 a11 : ℝ) :
    Gen.multi_code1_1100 realPrim d000 d001 d010 d011 d100 d101 d110 d111 n000 n001 n010 n011 n100 n101 n110 n111 u000 u001 u010 u011 u100 u101 u110 u111 a00 a01 a10 a11 = slow1 realPrim d110 n110 u110 a10 :=
  gen_fast_code1_eq _ _ _ _

theorem multi_code1_1101_eq (d000 d001 d010 d011 d100 d101 d110 d111 n000 n001 n010 n011 n100 n101 n110 n111 u000 u001 u010 u011 u100 u101 u110 u111 a00 a01 a10 a11 : ℝ) :
    Gen.multi_code1_1101 realPrim d000 d001 d010 d011 d100 d101 d110 d111 n000 n001 n010 n011 n100 n101 n110 n111 u000 u001 u010 u011 u100 u101 u110 u111 a00 a01 a10 a11 = slow1 realPrim d111 n111 u111 a10 :=
  gen_fast_code1_eq _ _ _ _

theorem multi_code1_1110_eq (d000 d001 d010 d011 d100 d101 d110 d111 n000 n001 n010 n011 n100 n101 n110 n111 u000 u001 u010 u011 u100 u101 u110 u111 a00 a01 a10 a11 : ℝ) :
    Gen.multi_code1_1110 realPrim d000 d001 d010 d011 d100 d101 d110 d111 n000 n001 n010 n011 n100 n101 n110 n111 u000 u001 u010 u011 u100 u101 u110 u111 a00 a01 a10 a11 = slow1 realPrim d110 n110 u110 a11 :=
  gen_fast_code1_eq _ _ _ _

theorem multi_code1_1111_eq (d000 d001 d010 d011 d100 d101 d110 d111 n000 n001 n010 n011 n100 n101 n110 n111 u000 u001 u010 u011 u100 u101 u110 u111 a00 a01 a10 a11 : ℝ) :
    Gen.multi_code1_1111 realPrim d000 d001 d010 d011 d100 d101 d110 d111 n000 n001 n010 n011 n100 n101 n110 n111 u000 u001 u010 u011 u100 u101 u110 u111 a00 a01 a10 a11 = slow1 realPrim d111 n111 u111 a11 :=
  gen_fast_code1_eq _ _ _ _

/-! ### code2: 2×2×2×2 entries -/

theorem multi_code2_0000_eq (d000 d001 d010 d011 d100 d101 d110 d111 n000 n001 n010 n011 n100 n101 n110 n111 u000 u001 u010 u011 u100 u101 u110 u111 a00 a01 a10 a11 : ℝ) :
    Gen.multi_code2_0000 realPrim d000 d001 d010 d011 d100 d101 d110 d111 n000 n001 n010 n011 n100 n101 n110 n111 u000 u001 u010 u011 u100 u101 u110 u111 a00 a01 a10 a11 = slow2 d000 n000 u000 a00 :=
  gen_fast_code2_eq _ _ _ _

theorem multi_code2_0001_eq (d000 d001 d010 d011 d100 d101 d110 d111 n000 n001 n010 n011 n100 n101 n110 n111 u000 u001 u010 u011 u100 u101 u110 u111 a00 a01 a10 a11 : ℝ) :
    Gen.multi_code2_0001 realPrim d000 d001 d010 d011 d100 d101 d110 d111 n000 n001 n010 n011 n100 n101 n110 n111 u000 u001 u010 u011 u100 u101 u110 u111 a00 a01 a10 a11 = slow2 d001 n001 u001 a00 :=
  gen_fast_code2_eq _ _ _ _

theorem multi_code2_0010_eq (d000 d001 d010 d011 d100 d101 d110 d111 n000 n001 n010 n011 n100 n101 n110 n111 u000 u001 u010 u011 u100 u101 u110 u111 a00 a01 a10 a11 : ℝ) :
    Gen.multi_code2_0010 realPrim d000 d001 d010 d011 d100 d101 d110 d111 n000 n001 n010 n011 n100 n101 n110 n111 u000 u001 u010 u011 u100 u101 u110 u111 a00 a01 a10 a11 = slow2 d000 n000 u000 a01 :=
  gen_fast_code2_eq _ _ _ _

theorem multi_code2_0011_eq (d000 d001 d010 d011 d100 d101 d110 d111 n000 n001 n010 n011 n100 n101 n110 n111 u000 u001 u010 u011 u100 u101 u110 u111 a00 a01 a10 a11 : ℝ) :
    Gen.multi_code2_0011 realPrim d000 d001 d010 d011 d100 d101 d110 d111 n000 n001 n010 n011 n100 n101 n110 n111 u000 u001 u010 u011 u100 u101 u110 u111 a00 a01 a10 a11 = slow2 d001 n001 u001 a01 :=
  gen_fast_code2_eq _ _ _ _

theorem multi_code2_0100_eq (d000 d001 d010 d011 d100 d101 d110 d111 n000 n001 n010 n011 n100 n101 n110 n111 u000 u001 u010 u011 u100 u101 u110 u111 a00 a01 a10 a11 : ℝ) :
    Gen.multi_code2_0100 realPrim d000 d001 d010 d011 d100 d101 d110 d111 n000 n001 n010 n011 n100 n101 n110 n111 u000 u001 u010 u011 u100 u101 u110 u111 a00 a01 a10 a11 = slow2 d010 n010 u010 a00 :=
  gen_fast_code2_eq _ _ _ _

theorem multi_code2_0101_eq (d000 d001 d010 d011 d100 d101 d110 d111 n000 n001 n010 n011 n100 n101 n110 n111 u000 u001 u010 u011 u100 u101 u110 u111 a00 a01 a10 a11 : ℝ) :
    Gen.multi_code2_0101 realPrim d000 d001 d010 d011 d100 d101 d110 d111 n000 n001 n010 n011 n100 n101 n110 n111 u000 u001 u010 u011 u100 u101 u110 u111 a00 a01 a10 a11 = slow2 d011 n011 u011 a00 :=
  gen_fast_code2_eq _ _ _ _

theorem multi_code2_0110_eq (d000 d001 d010 d011 d100 d101 d110 d111 n000 n001 n010 n011 n100 n101 n110 n111 u000 u001 u010 u011 u100 u101 u110 u111 a00 a01 a10 a11 : ℝ) :
    Gen.multi_code2_0110 realPrim d000 d001 d010 d011 d100 d101 d110 d111 n000 n001 n010 n011 n100 n101 n110 n111 u000 u001 u010 u011 u100 u101 u110 u111 a00 a01 a10 a11 = slow2 d010 n010 u010 a01 :=
  gen_fast_code2_eq _ _ _ _

theorem multi_code2_0111_eq (d000 d001 d010 d011 d100 d101 d110 d111 n000 n001 n010 n011 n100 n101 n110 n111 u000 u001 u010 u011 u100 u101 u110 u111 a00 a01 a10 a11 : ℝ) :
    Gen.multi_code2_0111 realPrim d000 d001 d010 d011 d100 d101 d110 d111 n000 n001 n010 n011 n100 n101 n110 n111 u000 u001 u010 u011 u100 u101 u110 u111 a00 a01 a10 a11 = slow2 d011 n011 u011 a01 :=
  gen_fast_code2_eq _ _ _ _

theorem multi_code2_1000_eq (d000 d001 d010 d011 d100 d101 d110 d111 n000 n001 n010 n011 n100 n101 n110 n111 u000 u001 u010 u011 u100 u101 u110 u111 a00 a01 a10 a11 : ℝ) :
    Gen.multi_code2_1000 realPrim d000 d001 d010 d011 d100 d101 d110 d111 n000 n001 n010 n011 n100 n101 n110 n111 u000 u001 u010 u011 u100 u101 u110 u111 a00 a01 a10 a11 = slow2 d100 n100 u100 a10 :=
  gen_fast_code2_eq _ _ _ _

theorem multi_code2_1001_eq (d000 d001 d010 d011 d100 d101 d110 d111 n000 n001 n010 n011 n100 n101 n110 n111 u000 u001 u010 u011 u100 u101 u110 u111 a00 a01 a10 a11 : ℝ) :
    Gen.multi_code2_1001 realPrim d000 d001 d010 d011 d100 d101 d110 d111 n000 n001 n010 n011 n100 n101 n110 n111 u000 u001 u010 u011 u100 u101 u110 u111 a00 a01 a10 a11 = slow2 d101 n101 u101 a10 :=
  gen_fast_code2_eq _ _ _ _

theorem multi_code2_1010_eq (d000 d001 d010 d011 d100 d101 d110 d111 n000 n001 n010 n011 n100 n101 n110 n111 u000 u001 u010 u011 u100 u101 u110 u111 a00 a01 a10 a11 : ℝ) :
    Gen.multi_code2_1010 realPrim d000 d001 d010 d011 d100 d101 d110 d111 n000 n001 n010 n011 n100 n101 n110 n111 u000 u001 u010 u011 u100 u101 u110 u111 a00 a01 a10 a11 = slow2 d100 n100 u100 a11 :=
  gen_fast_code2_eq _ _ _ _

theorem multi_code2_1011_eq (d000 d001 d010 d011 d100 d101 d110 d111 n000 n001 n010 n011 n100 n101 n110 n111 u000 u001 u010 u011 u100 u101 u110 u111 a00 a01 a10 a11 : ℝ) :
    Gen.multi_code2_1011 realPrim d000 d001 d010 d011 d100 d101 d110 d111 n000 n001 n010 n011 n100 n101 n110 n111 u000 u001 u010 u011 u100 u101 u110 u111 a00 a01 a10 a11 = slow2 d101 n101 u101 a11 :=
  gen_fast_code2_eq _ _ _ _

theorem multi_code2_1100_eq (d000 d001 d010 d011 d100 d101 d110 d111 n000 n001 n010 n011 n100 n101 n110 n111 u000 u001 u010 u011 u100 u101 u110 u111 a00 a01 a10 a11 : ℝ) :
    Gen.multi_code2_1100 realPrim d000 d001 d010 d011 d100 d101 d110 d111 n000 n001 n010 n011 n100 n101 n110 n111 u000 u001 u010 u011 u100 u101 u110 u111 a00 a01 a10 a11 = slow2 d110 n110 u110 a10 :=
  gen_fast_code2_eq _ _ _ _

theorem multi_code2_1101_eq (d000 d001 d010 d011 d100 d101 d110 d111 n000 n001 n010 n011 n100 n101 n110 n111 u000 u001 u010 u011 u100 u101 u110 u111 a00 a01 a10 a11 : ℝ) :
    Gen.multi_code2_1101 realPrim d000 d001 d010 d011 d100 d101 d110 d111 n000 n001 n010 n011 n100 n101 n110 n111 u000 u001 u010 u011 u100 u101 u110 u111 a00 a01 a10 a11 = slow2 d111 n111 u111 a10 :=
  gen_fast_code2_eq _ _ _ _

theorem multi_code2_1110_eq (d000 d001 d010 d011 d100 d101 d110 d111 n000 n001 n010 n011 n100 n101 n110 n111 u000 u001 u010 u011 u100 u101 u110 u111 a00 a01 a10 a11 : ℝ) :
    Gen.multi_code2_1110 realPrim d000 d001 d010 d011 d100 d101 d110 d111 n000 n001 n010 n011 n100 n101 n110 n111 u000 u001 u010 u011 u100 u101 u110 u111 a00 a01 a10 a11 = slow2 d110 n110 u110 a11 :=
  gen_fast_code2_eq _ _ _ _

theorem multi_code2_1111_eq (d000 d001 d010 d011 d100 d101 d110 d111 n000 n001 n010 n011 n100 n101 n110 n111 u000 u001 u010 u011 u100 u101 u110 u111 a00 a01 a10 a11 : ℝ) :
    Gen.multi_code2_1111 realPrim d000 d001 d010 d011 d100 d101 d110 d111 n000 n001 n010 n011 n100 n101 n110 n111 u000 u001 u010 u011 u100 u101 u110 u111 a00 a01 a10 a11 = slow2 d111 n111 u111 a11 :=
  gen_fast_code2_eq _ _ _ _

/-! ### code4: 2×2×1×2 entries -/

theorem multi_code4_0000_eq (a0 d000 d001 d010 d011 d100 d101 d110 d111 n000 n001 n010 n011 n100 n101 n110 n111 u000 u001 u010 u011 u100 u101 u110 u111 a00 a10 : ℝ) (h0 : 0 < a0) :
    Gen.multi_code4_0000 realPrim a0 d000 d001 d010 d011 d100 d101 d110 d111 n000 n001 n010 n011 n100 n101 n110 n111 u000 u001 u010 u011 u100 u101 u110 u111 a00 a10 = slow4 realPrim a0 d000 n000 u000 a00 :=
  gen_fast_code4_eq _ _ _ _ _ h0

theorem multi_code4_0001_eq (a0 d000 d001 d010 d011 d100 d101 d110 d111 n000 n001 n010 n011 n100 n101 n110 n111 u000 u001 u010 u011 u100 u101 u110 u111 a00 a10 : ℝ) (h0 : 0 < a0) :
    Gen.multi_code4_0001 realPrim a0 d000 d001 d010 d011 d100 d101 d110 d111 n000 n001 n010 n011 n100 n101 n110 n111 u000 u001 u010 u011 u100 u101 u110 u111 a00 a10 = slow4 realPrim a0 d001 n001 u001 a00 :=
  gen_fast_code4_eq _ _ _ _ _ h0

theorem multi_code4_0100_eq (a0 d000 d001 d010 d011 d100 d101 d110 d111 n000 n001 n010 n011 n100 n101 n110 n111 u000 u001 u010 u011 u100 u101 u110 u111 a00 a10 : ℝ) (h0 : 0 < a0) :
    Gen.multi_code4_0100 realPrim a0 d000 d001 d010 d011 d100 d101 d110 d111 n000 n001 n010 n011 n100 n101 n110 n111 u000 u001 u010 u011 u100 u101 u110 u111 a00 a10 = slow4 realPrim a0 d010 n010 u010 a00 :=
  gen_fast_code4_eq _ _ _ _ _ h0

theorem multi_code4_0101_eq (a0 d000 d001 d010 d011 d100 d101 d110 d111 n000 n001 n010 n011 n100 n101 n110 n111 u000 u001 u010 u011 u100 u101 u110 u111 a00 a10 : ℝ) (h0 : 0 < a0) :
    Gen.multi_code4_0101 realPrim a0 d000 d001 d010 d011 d100 d101 d110 d111 n000 n001 n010 n011 n100 n101 n110 n111 u000 u001 u010 u011 u100 u101 u110 u111 a00 a10 = slow4 realPrim a0 d011 n011 u011 a00 :=
  gen_fast_code4_eq _ _ _ _ _ h0

theorem multi_code4_1000_eq (a0 d000 d001 d010 d011 d100 d101 d110 d111 n000 n001 n010 n011 n100 n101 n110 n111 u000 u001 u010 u011 u100 u101 u110 u111 a00 a10 : ℝ) (h0 : 0 < a0) :
    Gen.multi_code4_1000 realPrim a0 d000 d001 d010 d011 d100 d101 d110 d111 n000 n001 n010 n011 n100 n101 n110 n111 u000 u001 u010 u011 u100 u101 u110 u111 a00 a10 = slow4 realPrim a0 d100 n100 u100 a10 :=
  gen_fast_code4_eq _ _ _ _ _ h0

theorem multi_code4_1001_eq (a0 d000 d001 d010 d011 d100 d101 d110 d111 n000 n001 n010 n011 n100 n101 n110 n111 u000 u001 u010 u011 u100 u101 u110 u111 a00 a10 : ℝ) (h0 : 0 < a0) :
    Gen.multi_code4_1001 realPrim a0 d000 d001 d010 d011 d100 d101 d110 d111 n000 n001 n010 n011 n100 n101 n110 n111 u000 u001 u010 u011 u100 u101 u110 u111 a00 a10 = slow4 realPrim a0 d101 n101 u101 a10 :=
  gen_fast_code4_eq _ _ _ _ _ h0

theorem multi_code4_1100_eq (a0 d000 d001 d010 d011 d100 d101 d110 d111 n000 n001 n010 n011 n100 n101 n110 n111 u000 u001 u010 u011 u100 u101 u110 u111 a00 a10 : ℝ) (h0 : 0 < a0) :
    Gen.multi_code4_1100 realPrim a0 d000 d001 d010 d011 d100 d101 d110 d111 n000 n001 n010 n011 n100 n101 n110 n111 u000 u001 u010 u011 u100 u101 u110 u111 a00 a10 = slow4 realPrim a0 d110 n110 u110 a10 :=
  gen_fast_code4_eq _ _ _ _ _ h0

theorem multi_code4_1101_eq (a0 d000 d001 d010 d011 d100 d101 d110 d111 n000 n001 n010 n011 n100 n101 n110 n111 u000 u001 u010 u011 u100 u101 u110 u111 a00 a10 : ℝ) (h0 : 0 < a0) :
    Gen.multi_code4_1101 realPrim a0 d000 d001 d010 d011 d100 d101 d110 d111 n000 n001 n010 n011 n100 n101 n110 n111 u000 u001 u010 u011 u100 u101 u110 u111 a00 a10 = slow4 realPrim a0 d111 n111 u111 a10 :=
  gen_fast_code4_eq _ _ _ _ _ h0

/-! ### code4p: 2×2×2×2 entries -/

theorem multi_code4p_0000_eq (d000 d001 d010 d011 d100 d101 d110 d111 n000 n001 n010 n011 n100 n101 n110 n111 u000 u001 u010 u011 u100 u101 u110 u111 a00 a01 a10 a11 : ℝ) :
    Gen.multi_code4p_0000 realPrim d000 d001 d010 d011 d100 d101 d110 d111 n000 n001 n010 n011 n100 n101 n110 n111 u000 u001 u010 u011 u100 u101 u110 u111 a00 a01 a10 a11 = slow4p d000 n000 u000 a00 :=
  gen_fast_code4p_eq _ _ _ _

theorem multi_code4p_0001_eq (d000 d001 d010 d011 d100 d101 d110 d111 n000 n001 n010 n011 n100 n101 n110 n111 u000 u001 u010 u011 u100 u101 u110 u111 a00 a01 a10 a11 : ℝ) :
    Gen.multi_code4p_0001 realPrim d000 d001 d010 d011 d100 d101 d110 d111 n000 n001 n010 n011 n100 n101 n110 n111 u000 u001 u010 u011 u100 u101 u110 u111 a00 a01 a10 a11 = slow4p d001 n001 u001 a00 :=
  gen_fast_code4p_eq _ _ _ _

theorem multi_code4p_0010_eq (d000 d001 d010 d011 d100 d101 d110 d111 n000 n001 n010 n011 n100 n101 n110 n111 u000 u001 u010 u011 u100 u101 u110 u111 a00 a01 a10 a11 : ℝ) :
    Gen.multi_code4p_0010 realPrim d000 d001 d010 d011 d100 d101 d110 d111 n000 n001 n010 n011 n100 n101 n110 n111 u000 u001 u010 u011 u100 u101 u110 u111 a00 a01 a10 a11 = slow4p d000 n000 u000 a01 :=
  gen_fast_code4p_eq _ _ _ _

theorem multi_code4p_0011_eq (d000 d001 d010 d011 d100 d101 d110 d111 n000 n001 n010 n011 n100 n101 n110 n111 u000 u001 u010 u011 u100 u101 u110 u111 a00 a01 a10 a11 : ℝ) :
    Gen.multi_code4p_0011 realPrim d000 d001 d010 d011 d100 d101 d110 d111 n000 n001 n010 n011 n100 n101 n110 n111 u000 u001 u010 u011 u100 u101 u110 u111 a00 a01 a10 a11 = slow4p d001 n001 u001 a01 :=
  gen_fast_code4p_eq _ _ _ _

theorem multi_code4p_0100_eq (d000 d001 d010 d011 d100 d101 d110 d111 n000 n001 n010 n011 n100 n101 n110 n111 u000 u001 u010 u011 u100 u101 u110 u111 a00 a01 a10 a11 : ℝ) :
    Gen.multi_code4p_0100 realPrim d000 d001 d010 d011 d100 d101 d110 d111 n000 n001 n010 n011 n100 n101 n110 n111 u000 u001 u010 u011 u100 u101 u110 u111 a00 a01 a10 a11 = slow4p d010 n010 u010 a00 :=
  gen_fast_code4p_eq _ _ _ _

theorem multi_code4p_0101_eq (d000 d001 d010 d011 d100 d101 d110 d111 n000 n001 n010 n011 n100 n101 n110 n111 u000 u001 u010 u011 u100 u101 u110 u111 a00 a01 a10 a11 : ℝ) :
    Gen.multi_code4p_0101 realPrim d000 d001 d010 d011 d100 d101 d110 d111 n000 n001 n010 n011 n100 n101 n110 n111 u000 u001 u010 u011 u100 u101 u110 u111 a00 a01 a10 a11 = slow4p d011 n011 u011 a00 :=
  gen_fast_code4p_eq _ _ _ _

theorem multi_code4p_0110_eq (d000 d001 d010 d011 d100 d101 d110 d111 n000 n001 n010 n011 n100 n101 n110 n111 u000 u001 u010 u011 u100 u101 u110 u111 a00 a01 a10 a11 : ℝ) :
    Gen.multi_code4p_0110 realPrim d000 d001 d010 d011 d100 d101 d110 d111 n000 n001 n010 n011 n100 n101 n110 n111 u000 u001 u010 u011 u100 u101 u110 u111 a00 a01 a10 a11 = slow4p d010 n010 u010 a01 :=
  gen_fast_code4p_eq _ _ _ _

theorem multi_code4p_0111_eq (d000 d001 d010 d011 d100 d101 d110 d111 n000 n001 n010 n011 n100 n101 n110 n111 u000 u001 u010 u011 u100 u101 u110 u111 a00 a01 a10 a11 : ℝ) :
    Gen.multi_code4p_0111 realPrim d000 d001 d010 d011 d100 d101 d110 d111 n000 n001 n010 n011 n100 n101 n110 n111 u000 u001 u010 u011 u100 u101 u110 u111 a00 a01 a10 a11 = slow4p d011 n011 u011 a01 :=
  gen_fast_code4p_eq _ _ _ _

theorem multi_code4p_1000_eq (d000 d001 d010 d011 d100 d101 d110 d111 n000 n001 n010 n011 n100 n101 n110 n111 u000 u001 u010 u011 u100 u101 u110 u111 a00 a01 a10 a11 : ℝ) :
    Gen.multi_code4p_1000 realPrim d000 d001 d010 d011 d100 d101 d110 d111 n000 n001 n010 n011 n100 n101 n110 n111 u000 u001 u010 u011 u100 u101 u110 u111 a00 a01 a10 a11 = slow4p d100 n100 u100 a10 :=
  gen_fast_code4p_eq _ _ _ _

theorem multi_code4p_1001_eq (d000 d001 d010 d011 d100 d101 d110 d111 n000 n001 n010 n011 n100 n101 n110 n111 u000 u001 u010 u011 u100 u101 u110 u111 a00 a01 a10 a11 : ℝ) :
    Gen.multi_code4p_1001 realPrim d000 d001 d010 d011 d100 d101 d110 d111 n000 n001 n010 n011 n100 n101 n110 n111 u000 u001 u010 u011 u100 u101 u110 u111 a00 a01 a10 a11 = slow4p d101 n101 u101 a10 :=
  gen_fast_code4p_eq _ _ _ _

theorem multi_code4p_1010_eq (d000 d001 d010 d011 d100 d101 d110 d111 n000 n001 n010 n011 n100 n101 n110 n111 u000 u001 u010 u011 u100 u101 u110 u111 a00 a01 a10 a11 : ℝ) :
    Gen.multi_code4p_1010 realPrim d000 d001 d010 d011 d100 d101 d110 d111 n000 n001 n010 n011 n100 n101 n110 n111 u000 u001 u010 u011 u100 u101 u110 u111 a00 a01 a10 a11 = slow4p d100 n100 u100 a11 :=
  gen_fast_code4p_eq _ _ _ _

theorem multi_code4p_1011_eq (d000 d001 d010 d011 d100 d101 d110 d111 n000 n001 n010 n011 n100 n101 n110 n111 u000 u001 u010 u011 u100 u101 u110 u111 a00 a01 a10 a11 : ℝ) :
    Gen.multi_code4p_1011 realPrim d000 d001 d010 d011 d100 d101 d110 d111 n000 n001 n010 n011 n100 n101 n110 n111 u000 u001 u010 u011 u100 u101 u110 u111 a00 a01 a10 a11 = slow4p d101 n101 u101 a11 :=
  gen_fast_code4p_eq _ _ _ _

theorem multi_code4p_1100_eq (d000 d001 d010 d011 d100 d101 d110 d111 n000 n001 n010 n011 n100 n101 n110 n111 u000 u001 u010 u011 u100 u101 u110 u111 a00 a01 a10 a11 : ℝ) :
    Gen.multi_code4p_1100 realPrim d000 d001 d010 d011 d100 d101 d110 d111 n000 n001 n010 n011 n100 n101 n110 n111 u000 u001 u010 u011 u100 u101 u110 u111 a00 a01 a10 a11 = slow4p d110 n110 u110 a10 :=
  gen_fast_code4p_eq _ _ _ _

theorem multi_code4p_1101_eq (d000 d001 d010 d011 d100 d101 d110 d111 n000 n001 n010 n011 n100 n101 n110 n111 u000 u001 u010 u011 u100 u101 u110 u111 a00 a01 a10 a11 : ℝ) :
    Gen.multi_code4p_1101 realPrim d000 d001 d010 d011 d100 d101 d110 d111 n000 n001 n010 n011 n100 n101 n110 n111 u000 u001 u010 u011 u100 u101 u110 u111 a00 a01 a10 a11 = slow4p d111 n111 u111 a10 :=
  gen_fast_code4p_eq _ _ _ _

theorem multi_code4p_1110_eq (d000 d001 d010 d011 d100 d101 d110 d111 n000 n001 n010 n011 n100 n101 n110 n111 u000 u001 u010 u011 u100 u101 u110 u111 a00 a01 a10 a11 : ℝ) :
    Gen.multi_code4p_1110 realPrim d000 d001 d010 d011 d100 d101 d110 d111 n000 n001 n010 n011 n100 n101 n110 n111 u000 u001 u010 u011 u100 u101 u110 u111 a00 a01 a10 a11 = slow4p d110 n110 u110 a11 :=
  gen_fast_code4p_eq _ _ _ _

theorem multi_code4p_1111_eq (d000 d001 d010 d011 d100 d101 d110 d111 n000 n001 n010 n011 n100 n101 n110 n111 u000 u001 u010 u011 u100 u101 u110 u111 a00 a01 a10 a11 : ℝ) :
    Gen.multi_code4p_1111 realPrim d000 d001 d010 d011 d100 d101 d110 d111 n000 n001 n010 n011 n100 n101 n110 n111 u000 u001 u010 u011 u100 u101 u110 u111 a00 a01 a10 a11 = slow4p d111 n111 u111 a11 :=
  gen_fast_code4p_eq _ _ _ _

end Pyhf.Props.C03

