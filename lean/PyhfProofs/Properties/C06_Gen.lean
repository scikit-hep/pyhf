import PyhfGen.Infer
import PyhfProofs.Properties.C06
import PyhfProofs.Lemmas.GenNorm
/-!
# C06 (continued) — the case-definition theorems hold of what `test_statistics.py` computes *now*

`PyhfGen/Infer.lean` is regenerated on every run by symbolic execution of the five statistic functions with the two fits replaced
by uninterpreted functions of the POI bounds they are handed (`fit` with bounds `(l, h)` → `(muhatOf l h, vfreeOf l h)`;
`fixed_poi_fit μ` → objective `fixedValOf l h μ`), so the value of μ *and the bounds* the code hands to the two fits are part of the
translation: every statistic is proved to run both fits on the caller's bounds `(blo, bhi)`.  Each generated function is proved equal to the model's `testStat` for all real inputs.
-/
namespace Pyhf.Props.C06
open Pyhf.Infer

/-- the model's two fits, from the symbolic results used by the translator -/
noncomputable def fitsOf (fixedVal : ℝ → ℝ) (fixedPars : ℝ → List ℝ) (vfree muhat : ℝ) (rest : List ℝ) :
    (ℝ → FitRes ℝ) × FitRes ℝ := (fun m => ⟨fixedPars m, fixedVal m⟩, ⟨muhat :: rest, vfree⟩)

theorem gen_qmu_eq (fixedValOf : ℝ → ℝ → ℝ → ℝ) (vfreeOf muhatOf : ℝ → ℝ → ℝ) (fixedPars : ℝ → List ℝ) (blo bhi mu : ℝ) (rest : List ℝ) :
    Gen.qmu fixedValOf vfreeOf muhatOf blo bhi mu
      = (testStat .q (fitsOf (fixedValOf blo bhi) fixedPars (vfreeOf blo bhi) (muhatOf blo bhi) rest).1 (fitsOf (fixedValOf blo bhi) fixedPars (vfreeOf blo bhi) (muhatOf blo bhi) rest).2 0 mu).1 := by
  unfold Gen.qmu
  simp only [sci_0, clip_zeroed]
  rfl

theorem gen_qmu_tilde_eq (fixedValOf : ℝ → ℝ → ℝ → ℝ) (vfreeOf muhatOf : ℝ → ℝ → ℝ) (fixedPars : ℝ → List ℝ) (blo bhi mu : ℝ) (rest : List ℝ) :
    Gen.qmu_tilde fixedValOf vfreeOf muhatOf blo bhi mu
      = (testStat .qtilde (fitsOf (fixedValOf blo bhi) fixedPars (vfreeOf blo bhi) (muhatOf blo bhi) rest).1 (fitsOf (fixedValOf blo bhi) fixedPars (vfreeOf blo bhi) (muhatOf blo bhi) rest).2 0 mu).1 := by
  unfold Gen.qmu_tilde
  simp only [sci_0, clip_zeroed]
  rfl

theorem gen_tmu_eq (fixedValOf : ℝ → ℝ → ℝ → ℝ) (vfreeOf muhatOf : ℝ → ℝ → ℝ) (fixedPars : ℝ → List ℝ) (blo bhi mu : ℝ) (rest : List ℝ) :
    Gen.tmu fixedValOf vfreeOf muhatOf blo bhi mu
      = (testStat .t (fitsOf (fixedValOf blo bhi) fixedPars (vfreeOf blo bhi) (muhatOf blo bhi) rest).1 (fitsOf (fixedValOf blo bhi) fixedPars (vfreeOf blo bhi) (muhatOf blo bhi) rest).2 0 mu).1 := by
  unfold Gen.tmu
  simp only [sci_0, clip_two_sided]
  rfl

theorem gen_tmu_tilde_eq (fixedValOf : ℝ → ℝ → ℝ → ℝ) (vfreeOf muhatOf : ℝ → ℝ → ℝ) (fixedPars : ℝ → List ℝ) (blo bhi mu : ℝ) (rest : List ℝ) :
    Gen.tmu_tilde fixedValOf vfreeOf muhatOf blo bhi mu
      = (testStat .ttilde (fitsOf (fixedValOf blo bhi) fixedPars (vfreeOf blo bhi) (muhatOf blo bhi) rest).1 (fitsOf (fixedValOf blo bhi) fixedPars (vfreeOf blo bhi) (muhatOf blo bhi) rest).2 0 mu).1 := by
  unfold Gen.tmu_tilde
  simp only [sci_0, clip_two_sided]
  rfl

/-- `q0` tests μ = 0 whatever value the caller passes (the generated code evaluates `fixedVal 0`) -/
theorem gen_q0_eq (fixedValOf : ℝ → ℝ → ℝ → ℝ) (vfreeOf muhatOf : ℝ → ℝ → ℝ) (fixedPars : ℝ → List ℝ) (blo bhi mu : ℝ) (rest : List ℝ) :
    Gen.q0 fixedValOf vfreeOf muhatOf blo bhi mu
      = (testStat .q0 (fitsOf (fixedValOf blo bhi) fixedPars (vfreeOf blo bhi) (muhatOf blo bhi) rest).1 (fitsOf (fixedValOf blo bhi) fixedPars (vfreeOf blo bhi) (muhatOf blo bhi) rest).2 0 mu).1 := by
  unfold Gen.q0
  by_cases hmu : mu = 0
  · subst hmu
    simp only [sci_0, ne_eq, not_true_eq_false, if_false, clip_zeroed]
    rfl
  · simp only [sci_0, ne_eq, hmu, not_false_eq_true, if_true, clip_zeroed]
    rfl

/-! Consequences for the current source: non-negative, and the one-sided rules. -/
theorem gen_statistics_nonneg (fixedValOf : ℝ → ℝ → ℝ → ℝ) (vfreeOf muhatOf : ℝ → ℝ → ℝ) (blo bhi mu : ℝ) :
    0 ≤ Gen.qmu fixedValOf vfreeOf muhatOf blo bhi mu ∧ 0 ≤ Gen.qmu_tilde fixedValOf vfreeOf muhatOf blo bhi mu ∧ 0 ≤ Gen.tmu fixedValOf vfreeOf muhatOf blo bhi mu ∧
    0 ≤ Gen.tmu_tilde fixedValOf vfreeOf muhatOf blo bhi mu ∧ 0 ≤ Gen.q0 fixedValOf vfreeOf muhatOf blo bhi mu := by
  rw [gen_qmu_eq _ _ _ (fun _ => []) _ _ _ [], gen_qmu_tilde_eq _ _ _ (fun _ => []) _ _ _ [], gen_tmu_eq _ _ _ (fun _ => []) _ _ _ [],
    gen_tmu_tilde_eq _ _ _ (fun _ => []) _ _ _ [], gen_q0_eq _ _ _ (fun _ => []) _ _ _ []]
  exact ⟨teststat_nonneg .., teststat_nonneg .., teststat_nonneg .., teststat_nonneg .., teststat_nonneg ..⟩

theorem gen_qmu_zero_above (fixedValOf : ℝ → ℝ → ℝ → ℝ) (vfreeOf muhatOf : ℝ → ℝ → ℝ) (blo bhi mu : ℝ) (h : mu < muhatOf blo bhi) : Gen.qmu fixedValOf vfreeOf muhatOf blo bhi mu = 0 := by
  rw [gen_qmu_eq _ _ _ (fun _ => []) _ _ _ []]
  exact qmu_zero_of_muhat_gt _ _ 0 mu h

theorem gen_q0_zero_below (fixedValOf : ℝ → ℝ → ℝ → ℝ) (vfreeOf muhatOf : ℝ → ℝ → ℝ) (blo bhi mu : ℝ) (h : muhatOf blo bhi < 0) : Gen.q0 fixedValOf vfreeOf muhatOf blo bhi mu = 0 := by
  rw [gen_q0_eq _ _ _ (fun _ => []) _ _ _ []]
  exact q0_zero_of_muhat_neg _ _ 0 mu h

end Pyhf.Props.C06
