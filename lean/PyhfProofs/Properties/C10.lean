import PyhfProofs.Lemmas.Batch
import PyhfProofs.Lemmas.Build
/-!
# C10 — batched evaluation equals row-by-row evaluation

The batched code path differs from the unbatched one in how parameters are addressed: every gather goes
through the flat index `t·npars + i` of the reshaped `(batch, npars)` parameter tensor (`ParamViewer`
index selections, `access_field`, `tensorlib.reshape(pars, (-1,))`).  The model's batched evaluation of row
`t` is the same formula with the accessor `parOfRow npars rows t`.
-/
namespace Pyhf.Props.C10

/-- the flat index of the reshaped parameter tensor addresses row `t`, column `i` -/
theorem C10_flat_index_row {α : Type} (d : α) (n : Nat) (rows : List (List α)) (hrows : ∀ r ∈ rows, r.length = n)
    (t i : Nat) (ht : t < rows.length) (hi : i < n) :
    rows.flatten.getD (t * n + i) d = (rows.getD t []).getD i d :=
  flat_index_row d n rows hrows t i ht hi

/-- **Batched expected data = row-by-row**, for any batch size, any number type: row `t` of the batched result is
the unbatched result on `rows[t]` — rows never influence each other. -/
theorem C10_batched_expected_eq_rows {K : Type} [Add K] [Sub K] [Mul K] [Div K] [Neg K] [OfNat K 0] [OfNat K 1]
    [OfScientific K] [LT K] [LE K] [DecidableLT K] [DecidableLE K] [BEq K]
    (P : Prim K) (s : Spec K) (st : Settings K) (m : Model K) (hbuild : buildModel P s st = .ok m) (hreads : readsBelow m m.npars = true)
    (rows : List (List K)) (hrows : ∀ r ∈ rows, r.length = m.npars) (t : Nat) (ht : t < rows.length) :
    expectedActual P m (parOfRow m.npars rows t) = expectedActual P m (parOf (rows.getD t [])) :=
  expectedActual_eq_of_agree P m (shape_of_build hbuild) m.npars hreads _ _
    (fun k hk => parOfRow_eq m.npars rows hrows t ht k hk)

/-- a batch of one row is the unbatched evaluation of that row -/
theorem C10_batch_of_one {K : Type} [Add K] [Sub K] [Mul K] [Div K] [Neg K] [OfNat K 0] [OfNat K 1]
    [OfScientific K] [LT K] [LE K] [DecidableLT K] [DecidableLE K] [BEq K]
    (P : Prim K) (s : Spec K) (st : Settings K) (m : Model K) (hbuild : buildModel P s st = .ok m) (hreads : readsBelow m m.npars = true)
    (r : List K) (hr : r.length = m.npars) :
    expectedActual P m (parOfRow m.npars [r] 0) = expectedActual P m (parOf r) :=
  C10_batched_expected_eq_rows P s st m hbuild hreads [r] (fun _ hq => List.mem_singleton.mp hq ▸ hr) 0 Nat.zero_lt_one

/-- two batches that hold the same row — at whatever positions, whatever the other rows and batch sizes — give the same
result for it (in particular duplicated rows of one batch give identical results, and splitting or concatenating batches
changes nothing) -/
theorem C10_same_row_same_result {K : Type} [Add K] [Sub K] [Mul K] [Div K] [Neg K] [OfNat K 0] [OfNat K 1]
    [OfScientific K] [LT K] [LE K] [DecidableLT K] [DecidableLE K] [BEq K]
    (P : Prim K) (s : Spec K) (st : Settings K) (m : Model K) (hbuild : buildModel P s st = .ok m) (hreads : readsBelow m m.npars = true)
    (rows rows' : List (List K)) (hrows : ∀ r ∈ rows, r.length = m.npars) (hrows' : ∀ r ∈ rows', r.length = m.npars)
    (t t' : Nat) (ht : t < rows.length) (ht' : t' < rows'.length) (hsame : rows.getD t [] = rows'.getD t' []) :
    expectedActual P m (parOfRow m.npars rows t) = expectedActual P m (parOfRow m.npars rows' t') := by
  rw [C10_batched_expected_eq_rows P s st m hbuild hreads rows hrows t ht,
      C10_batched_expected_eq_rows P s st m hbuild hreads rows' hrows' t' ht', hsame]

/-- changing any other row changes nothing in row `t` -/
theorem C10_rows_independent {K : Type} [Add K] [Sub K] [Mul K] [Div K] [Neg K] [OfNat K 0] [OfNat K 1]
    [OfScientific K] [LT K] [LE K] [DecidableLT K] [DecidableLE K] [BEq K]
    (P : Prim K) (s : Spec K) (st : Settings K) (m : Model K) (hbuild : buildModel P s st = .ok m) (hreads : readsBelow m m.npars = true)
    (rows rows' : List (List K)) (hrows : ∀ r ∈ rows, r.length = m.npars) (hrows' : ∀ r ∈ rows', r.length = m.npars)
    (t : Nat) (ht : t < rows.length) (ht' : t < rows'.length) (hsame : rows.getD t [] = rows'.getD t []) :
    expectedActual P m (parOfRow m.npars rows t) = expectedActual P m (parOfRow m.npars rows' t) :=
  C10_same_row_same_result P s st m hbuild hreads rows rows' hrows hrows' t t ht ht' hsame

/-- concatenated batches: the leading rows of `A ++ B` evaluate as in `A`, the trailing ones as in `B` -/
theorem C10_batch_append {K : Type} [Add K] [Sub K] [Mul K] [Div K] [Neg K] [OfNat K 0] [OfNat K 1]
    [OfScientific K] [LT K] [LE K] [DecidableLT K] [DecidableLE K] [BEq K]
    (P : Prim K) (s : Spec K) (st : Settings K) (m : Model K) (hbuild : buildModel P s st = .ok m) (hreads : readsBelow m m.npars = true)
    (A B : List (List K)) (hA : ∀ r ∈ A, r.length = m.npars) (hB : ∀ r ∈ B, r.length = m.npars) :
    (∀ t, t < A.length → expectedActual P m (parOfRow m.npars (A ++ B) t) = expectedActual P m (parOfRow m.npars A t)) ∧
    (∀ t, t < B.length → expectedActual P m (parOfRow m.npars (A ++ B) (A.length + t)) = expectedActual P m (parOfRow m.npars B t)) := by
  have hAB : ∀ r ∈ A ++ B, r.length = m.npars := fun r hr => (List.mem_append.mp hr).elim (hA r) (hB r)
  constructor
  · intro t ht
    exact C10_same_row_same_result P s st m hbuild hreads _ _ hAB hA t t (by rw [List.length_append]; omega) ht
      (List.getD_append A B [] t ht)
  · intro t ht
    refine C10_same_row_same_result P s st m hbuild hreads _ _ hAB hB (A.length + t) t
      (by rw [List.length_append]; omega) ht ?_
    rw [List.getD_append_right A B [] _ (Nat.le_add_right _ _), Nat.add_sub_cancel_left]

/-- the batch dimension is the leading one: the batched result is a list with one entry per row -/
theorem C10_batch_is_leading_dim {K : Type} [Add K] [Sub K] [Mul K] [Div K] [Neg K] [OfNat K 0] [OfNat K 1]
    [OfScientific K] [LT K] [LE K] [DecidableLT K] [DecidableLE K] [BEq K]
    (P : Prim K) (m : Model K) (rows : List (List K)) :
    ((List.range rows.length).map fun t => expectedActual P m (parOfRow m.npars rows t)).length = rows.length := by
  simp

/-- **Batched log-density = row-by-row**: row `t` of a batched `logpdf` (every gather through the flat index
`t·npars + i`, main and constraint terms alike) is the unbatched log-density of `rows[t]` on the same data, term by term. -/
theorem C10_batched_logpdf_eq_rows {K : Type} [Add K] [Sub K] [Mul K] [Div K] [Neg K] [OfNat K 0] [OfNat K 1]
    [OfScientific K] [LT K] [LE K] [DecidableLT K] [DecidableLE K] [BEq K]
    (P : Prim K) (L : LogPrim K) (s : Spec K) (st : Settings K) (m : Model K) (hbuild : buildModel P s st = .ok m)
    (hreads : readsBelow m m.npars = true) (hcreads : constraintReadsBelow m m.npars = true)
    (rows : List (List K)) (hrows : ∀ r ∈ rows, r.length = m.npars) (t : Nat) (ht : t < rows.length) (data : List K) :
    logpdfTerms P m (parOfRow m.npars rows t) data = logpdfTerms P m (parOf (rows.getD t [])) data ∧
    logpdfT P L m (parOfRow m.npars rows t) data = logpdfT P L m (parOf (rows.getD t [])) data := by
  have := logpdfTerms_eq_of_agree P m (shape_of_build hbuild) m.npars hreads hcreads _ _
    (fun k hk => parOfRow_eq m.npars rows hrows t ht k hk) data
  exact ⟨this, by unfold logpdfT; rw [this]⟩

/-- the log-density of a row depends on nothing but the row: position, batch size and the other rows are irrelevant -/
theorem C10_logpdf_same_row_same_result {K : Type} [Add K] [Sub K] [Mul K] [Div K] [Neg K] [OfNat K 0] [OfNat K 1]
    [OfScientific K] [LT K] [LE K] [DecidableLT K] [DecidableLE K] [BEq K]
    (P : Prim K) (L : LogPrim K) (s : Spec K) (st : Settings K) (m : Model K) (hbuild : buildModel P s st = .ok m)
    (hreads : readsBelow m m.npars = true) (hcreads : constraintReadsBelow m m.npars = true)
    (rows rows' : List (List K)) (hrows : ∀ r ∈ rows, r.length = m.npars) (hrows' : ∀ r ∈ rows', r.length = m.npars)
    (t t' : Nat) (ht : t < rows.length) (ht' : t' < rows'.length) (hsame : rows.getD t [] = rows'.getD t' []) (data : List K) :
    logpdfT P L m (parOfRow m.npars rows t) data = logpdfT P L m (parOfRow m.npars rows' t') data := by
  rw [(C10_batched_logpdf_eq_rows P L s st m hbuild hreads hcreads rows hrows t ht data).2,
      (C10_batched_logpdf_eq_rows P L s st m hbuild hreads hcreads rows' hrows' t' ht' data).2, hsame]

end Pyhf.Props.C10
