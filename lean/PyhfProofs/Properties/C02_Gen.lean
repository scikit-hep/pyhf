import PyhfGen.Model
import PyhfProofs.Properties.C01_Gen
/-!
# C02 (continued) — what `Model.logpdf` computes *now* is the HistFactory template, for whole specification shapes

`PyhfGen/Model.lean` (regenerated on every run): `<shape>_logpdf` is `Model.logpdf(pars, data)` of the shape as computed by pyhf's
construction path, viewers, constraint classes and probability layer, executed symbolically with all yields, variations,
uncertainties, parameters, main data `d` and auxiliary data `a` symbolic and the two log-density primitives `lpois`, `lnorm`
uninterpreted; `<shape>_logpdf_ref` is the template written from the specification by name: one Poisson term per bin on the expected
rate, then exactly one constraint term per constrained parameter component in the configuration's auxiliary-data order — unit-width
Gaussians for the interpolated systematics, the configured width for the luminosity, `lpois(a | γ·τ)` with `τ = (nominal/uncertainty)²`
for uncorrelated shape, and `lnorm(a | γ, σ)` with `σ = sqrt Σ_s (unc_s / Σ nominal)²` (unit width if that vanishes) for the MC-statistical
uncertainty.  Together with `C01_Gen` (rates = declared formula) this is property C02 on these shapes for all real values.
-/
namespace Pyhf.Props.C02

theorem shapeA_logpdf_eq (lpois : ℝ → ℝ → ℝ) (lnorm : ℝ → ℝ → ℝ → ℝ) (s0 s1 b0 b1 nlo nhi hl0 hl1 hh0 hh1 p_sysB p_mu p_sysA d0 d1 a0 a1 : ℝ) (_hs0 : 0 < s0) (_hs1 : 0 < s1) (_hb0 : 0 < b0) (_hb1 : 0 < b1) (_hnlo : 0 < nlo) (_hnhi : 0 < nhi) (_hhl0 : 0 < hl0) (_hhl1 : 0 < hl1) (_hhh0 : 0 < hh0) (_hhh1 : 0 < hh1) :
    Gen.shapeA_logpdf realPrim lpois lnorm s0 s1 b0 b1 nlo nhi hl0 hl1 hh0 hh1 p_sysB p_mu p_sysA d0 d1 a0 a1 = Gen.shapeA_logpdf_ref realPrim lpois lnorm s0 s1 b0 b1 nlo nhi hl0 hl1 hh0 hh1 p_sysB p_mu p_sysA d0 d1 a0 a1 := by
  unfold Gen.shapeA_logpdf Gen.shapeA_logpdf_ref Gen.shapeA_bin0 Gen.shapeA_bin1
  rcases code4_regimes one_pos p_sysA with h | h | h <;> rcases code4p_regimes p_sysB with k | k | k <;> simp only [gen_norm, h, k]

theorem shapeB_logpdf_eq (lpois : ℝ → ℝ → ℝ) (lnorm : ℝ → ℝ → ℝ → ℝ) (s0 s1 es0 es1 b0 b1 u0 u1 eb0 eb1 hl0 hl1 hh0 hh1 p_sysH p_lumi p_mu p_uncorr_0 p_uncorr_1 p_stat_SR_0 p_stat_SR_1 d0 d1 a0 a1 a2 a3 a4 a5 : ℝ) (_hs0 : 0 < s0) (_hs1 : 0 < s1) (_hes0 : 0 < es0) (_hes1 : 0 < es1) (_hb0 : 0 < b0) (_hb1 : 0 < b1) (_hu0 : 0 < u0) (_hu1 : 0 < u1) (_heb0 : 0 < eb0) (_heb1 : 0 < eb1) (_hhl0 : 0 < hl0) (_hhl1 : 0 < hl1) (_hhh0 : 0 < hh0) (_hhh1 : 0 < hh1) :
    Gen.shapeB_logpdf realPrim lpois lnorm s0 s1 es0 es1 b0 b1 u0 u1 eb0 eb1 hl0 hl1 hh0 hh1 p_sysH p_lumi p_mu p_uncorr_0 p_uncorr_1 p_stat_SR_0 p_stat_SR_1 d0 d1 a0 a1 a2 a3 a4 a5 = Gen.shapeB_logpdf_ref realPrim lpois lnorm s0 s1 es0 es1 b0 b1 u0 u1 eb0 eb1 hl0 hl1 hh0 hh1 p_sysH p_lumi p_mu p_uncorr_0 p_uncorr_1 p_stat_SR_0 p_stat_SR_1 d0 d1 a0 a1 a2 a3 a4 a5 := by
  unfold Gen.shapeB_logpdf Gen.shapeB_logpdf_ref Gen.shapeB_bin0 Gen.shapeB_bin1
  rcases code4p_regimes p_sysH with h | h | h <;> simp only [gen_norm, h] <;> ring1

theorem shapeC_logpdf_eq (lpois : ℝ → ℝ → ℝ) (lnorm : ℝ → ℝ → ℝ → ℝ) (c0 clo chi s0 s1 slo shi b0 b1 p_k_bkg p_mu p_sysA p_sf_SR_0 p_sf_SR_1 d0 d1 d2 a0 : ℝ) (_hc0 : 0 < c0) (_hclo : 0 < clo) (_hchi : 0 < chi) (_hs0 : 0 < s0) (_hs1 : 0 < s1) (_hslo : 0 < slo) (_hshi : 0 < shi) (_hb0 : 0 < b0) (_hb1 : 0 < b1) :
    Gen.shapeC_logpdf realPrim lpois lnorm c0 clo chi s0 s1 slo shi b0 b1 p_k_bkg p_mu p_sysA p_sf_SR_0 p_sf_SR_1 d0 d1 d2 a0 = Gen.shapeC_logpdf_ref realPrim lpois lnorm c0 clo chi s0 s1 slo shi b0 b1 p_k_bkg p_mu p_sysA p_sf_SR_0 p_sf_SR_1 d0 d1 d2 a0 := by
  unfold Gen.shapeC_logpdf Gen.shapeC_logpdf_ref Gen.shapeC_bin0 Gen.shapeC_bin1 Gen.shapeC_bin2
  rcases code4_regimes one_pos p_sysA with h | h | h <;> simp only [gen_norm, h]

end Pyhf.Props.C02
