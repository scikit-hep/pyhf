import PyhfProofs.Lemmas.StaterrorReal
/-!
# C02 (continued) — the width of the MC-statistical constraint

`staterrorSigmas` models `staterror_builder.finalize`: for one staterror name, `nomsAll_b` = the summed nominal yield of the
*declaring* samples (those whose mask has any `True`) in bin `b`, and the relative width of a masked bin is
`relWidth_b = sqrt (Σ_samples (unc_sb / nomsAll_b)²)` if `nomsAll_b > 0` and `0` otherwise; a bin of width `0` is held fixed and
its Gaussian gets unit width.  (`relWidth`, `nomsAll`: `Lemmas/StaterrorReal.lean`; `declaring`: `Lemmas/Staterror.lean`.)
-/
namespace Pyhf.Props.C02
open Pyhf.Overrides

/-- **closed form of the widths and fixed flags**, bin by bin through the mask of the declaring samples: the parameter component of a
masked bin `b` is the number of masked bins before it -/
theorem C02_sigma_staterror (s : Spec ℝ) (cfg : Config) (n : String) (sig : List ℝ) (fx : List Bool)
    (h : staterrorSigmas realPrim s cfg n = .ok (sig, fx))
    (hnom : ∀ sm ∈ cfg.samples, (nomTab s cfg sm).length = cfg.nmain)
    (hunc : ∀ sm ∈ cfg.samples, (uncrtTab s cfg n .staterror sm).length = cfg.nmain)
    (sm : String) (hsm : sm ∈ declaring s cfg n) (b : Nat) (hb : b < cfg.nmain)
    (hmask : (maskTab s cfg n .staterror sm).getD b false = true) :
    sig.getD (((maskTab s cfg n .staterror sm).take b).count true) 1 =
        (if relWidth s cfg n b = 0 then 1 else relWidth s cfg n b) ∧
    fx.getD (((maskTab s cfg n .staterror sm).take b).count true) false = decide (relWidth s cfg n b = 0) := by
  obtain ⟨rfl, rfl⟩ := staterror_widths_closed_form s cfg n sig fx h hnom hunc sm hsm
  exact ⟨maskSelect_range_getD _ _ _ _ _ hb hmask, maskSelect_range_getD _ _ _ _ _ hb hmask⟩

/-- one declaring sample: `σ_b = uncertainty_b / nominal_b` -/
theorem C02_sigma_staterror_single_sample (s : Spec ℝ) (cfg : Config) (n : String) (sig : List ℝ) (fx : List Bool)
    (h : staterrorSigmas realPrim s cfg n = .ok (sig, fx))
    (hnom : ∀ sm ∈ cfg.samples, (nomTab s cfg sm).length = cfg.nmain)
    (hunc : ∀ sm ∈ cfg.samples, (uncrtTab s cfg n .staterror sm).length = cfg.nmain)
    (hcells : ∀ sm ∈ cfg.samples, ∀ c ∈ cfg.channels, ∀ x m, findSample s c sm = some x →
      findMod x n .staterror = some m → m.lo.length = x.data.length)
    (sm0 : String) (hdecl : declaring s cfg n = [sm0]) (b : Nat) (hb : b < cfg.nmain)
    (hmask : (maskTab s cfg n .staterror sm0).getD b false = true)
    (hpos : 0 < (nomTab s cfg sm0).getD b 0) (hu : 0 ≤ (uncrtTab s cfg n .staterror sm0).getD b 0) :
    let σ := (uncrtTab s cfg n .staterror sm0).getD b 0 / (nomTab s cfg sm0).getD b 0
    let k := ((maskTab s cfg n .staterror sm0).take b).count true
    relWidth s cfg n b = σ ∧ sig.getD k 1 = (if σ = 0 then 1 else σ) ∧ fx.getD k false = decide (σ = 0) := by
  intro σ k
  have hrw : relWidth s cfg n b = σ :=
    relWidth_single_sample s cfg n sm0 b hdecl
      (fun sm hsm hnd => uncrt_zero_of_not_declaring s cfg n sm hnd (hcells sm hsm) b) hpos hu
  have := C02_sigma_staterror s cfg n sig fx h hnom hunc sm0 (by rw [hdecl]; simp) b hb hmask
  rw [hrw] at this
  exact ⟨hrw, this⟩

end Pyhf.Props.C02
