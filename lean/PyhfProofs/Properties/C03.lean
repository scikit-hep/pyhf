import PyhfModel.Interp
import PyhfProofs.Lemmas.RealPrim
import PyhfProofs.Lemmas.Piecewise
import PyhfProofs.Lemmas.InterpReal
import Mathlib.Analysis.SpecialFunctions.Pow.Deriv
import Mathlib.Analysis.SpecialFunctions.Pow.Continuity
import Mathlib.Analysis.Calculus.Deriv.Pow
import Mathlib.Tactic.Ring
import Mathlib.Tactic.Linarith
/-!
# C03 — interpolation codes realise their defining piecewise functions for all alpha

All statements are about the model functions of `PyhfModel/Interp.lean` instantiated at `ℝ`
(`realPrim`: `Real.rpow`, `Real.log`).  `slowK` is the scalar reference, `fastK` one cell of the
vectorised computation.
-/
namespace Pyhf.Props.C03
open Pyhf.Interp

/-! ## code 0 -/

theorem code0_neutral (dn nom up : ℝ) : slow0 dn nom up 0 = 0 := by
  rw [slow0_of_nonneg le_rfl, mul_zero]
theorem code0_at_plus_one (dn nom up : ℝ) : slow0 dn nom up 1 = up - nom := by
  rw [slow0_of_nonneg zero_le_one, mul_one]
theorem code0_at_minus_one (dn nom up : ℝ) : slow0 dn nom up (-1) = dn - nom := by
  rw [slow0_of_nonpos (by norm_num)]; ring

/-- slope `up − nom` on the whole positive side, `nom − dn` on the whole negative side -/
theorem code0_extrapolation (dn nom up a : ℝ) :
    (0 < a → slow0 dn nom up a = (up - nom) * a) ∧ (a ≤ 0 → slow0 dn nom up a = (nom - dn) * a) :=
  ⟨fun h => slow0_of_nonneg h.le, slow0_of_nonpos⟩

theorem code0_continuous (dn nom up : ℝ) : Continuous fun a => slow0 dn nom up a :=
  continuous_glue (c := 0) (fun _ => slow0_of_nonpos) (fun _ => slow0_of_nonneg)
    (by fun_prop) (by fun_prop)

theorem code0_fast_eq_slow (dn nom up a : ℝ) : fast0 dn nom up a = slow0 dn nom up a := by
  unfold fast0 slow0
  rw [sel_decide]
  split_ifs <;> ring

/-! ## code 1 -/

theorem code1_neutral (dn nom up : ℝ) : slow1 realPrim dn nom up 0 = 1 := by
  rw [slow1_of_nonneg le_rfl, Real.rpow_zero]
theorem code1_at_plus_one (dn nom up : ℝ) : slow1 realPrim dn nom up 1 = up / nom := by
  rw [slow1_of_nonneg zero_le_one, Real.rpow_one]
theorem code1_at_minus_one (dn nom up : ℝ) : slow1 realPrim dn nom up (-1) = dn / nom := by
  rw [slow1_of_nonpos (by norm_num), neg_neg, Real.rpow_one]

/-- exponent of the matching side, everywhere -/
theorem code1_extrapolation (dn nom up a : ℝ) :
    (0 < a → slow1 realPrim dn nom up a = (up / nom) ^ a) ∧
    (a ≤ 0 → slow1 realPrim dn nom up a = (dn / nom) ^ (-a)) :=
  ⟨fun h => slow1_of_nonneg h.le, slow1_of_nonpos⟩

theorem code1_continuous (dn nom up : ℝ) (hd : 0 < dn) (hn : 0 < nom) (hu : 0 < up) :
    Continuous fun a => slow1 realPrim dn nom up a :=
  continuous_glue (c := 0) (fun _ => slow1_of_nonpos) (fun _ => slow1_of_nonneg)
    ((Real.continuous_const_rpow (div_pos hd hn).ne').comp continuous_neg)
    (Real.continuous_const_rpow (div_pos hu hn).ne')

theorem code1_fast_eq_slow (dn nom up a : ℝ) :
    fast1 realPrim dn nom up a = slow1 realPrim dn nom up a := by
  unfold fast1 slow1
  rw [sel_decide, sel_decide]
  split_ifs <;> rfl

/-! ## code 2 (after `fix: code2 …`) -/

theorem code2_neutral (dn nom up : ℝ) : slow2 dn nom up 0 = 0 := by
  rw [slow2_of_abs_le (by norm_num) zero_le_one]; ring
theorem code2_at_plus_one (dn nom up : ℝ) : slow2 dn nom up 1 = up - nom := by
  rw [slow2_of_one_le le_rfl, c2a_real, c2b_real]; ring
theorem code2_at_minus_one (dn nom up : ℝ) : slow2 dn nom up (-1) = dn - nom := by
  rw [slow2_of_le_neg_one le_rfl, c2a_real, c2b_real]; ring

/-- beyond the core the value is the boundary value plus the boundary slope `b ± 2a` of the
quadratic times the distance -/
theorem code2_extrapolation (dn nom up a : ℝ) :
    (1 < a → slow2 dn nom up a = (up - nom) + (c2b dn up + 2 * c2a dn nom up) * (a - 1)) ∧
    (a < -1 → slow2 dn nom up a = (dn - nom) + (c2b dn up - 2 * c2a dn nom up) * (a + 1)) := by
  constructor <;> intro h
  · rw [slow2_of_one_le h.le, c2a_real, c2b_real]; ring
  · rw [slow2_of_le_neg_one h.le, c2a_real, c2b_real]; ring

/-- derivative of code 2 (piecewise) -/
noncomputable def d2 (dn nom up a : ℝ) : ℝ :=
  if 1 < a then c2b dn up + 2 * c2a dn nom up
  else if -1 < a then 2 * c2a dn nom up * a + c2b dn up
  else c2b dn up - 2 * c2a dn nom up

/-- code 2 is differentiable on the whole line, in particular at `±1` (value and slope match) -/
theorem code2_hasDerivAt (dn nom up a : ℝ) : HasDerivAt (slow2 dn nom up) (d2 dn nom up a) a :=
  Glued.hasDerivAt (a := -1) (b := 1)
    ⟨fun _ h => (slow2_of_le_neg_one h).trans (by ring), fun _ => slow2_of_abs_le,
      fun _ h => (slow2_of_one_le h).trans (by ring)⟩
    (.of_ite (by norm_num) (by ring) (by ring)) (by norm_num)
    (lin_hasDerivAt _ (-c2a dn nom up)) (quad_hasDerivAt _ _) (lin_hasDerivAt _ (-c2a dn nom up)) a

theorem code2_continuous (dn nom up : ℝ) : Continuous fun a => slow2 dn nom up a :=
  continuous_of_hasDerivAt (code2_hasDerivAt dn nom up)

theorem code2_fast_eq_slow (dn nom up a : ℝ) : fast2 dn nom up a = slow2 dn nom up a := by
  rw [fast2_real]
  split_ifs with h1 h2
  · rw [slow2_of_one_le h2.le]; ring
  · rw [slow2_of_abs_le h1 (not_lt.mp h2)]; ring
  · rw [slow2_of_le_neg_one (not_le.mp h1).le]; ring

/-- **Finding F1 (repaired by `fix: code2 …`)** — code 2 as it stood: the value at `α = 1` is
`up − nom = 3`, but just above it is `3.5·(α − 1) ≈ 0`: a jump. -/
theorem code2_prefix_discontinuous_at_one :
    slow2_prefix (8 : ℝ) 10 13 1 = 3 ∧ ∀ a : ℝ, 1 < a → slow2_prefix (8 : ℝ) 10 13 a = 7 / 2 * (a - 1) := by
  constructor
  · rw [slow2_prefix_real, c2a_real, c2b_real]; norm_num
  · intro a h; rw [slow2_prefix_real, c2a_real, c2b_real]; simp only [h, if_true]; norm_num

/-- **Finding F1** — the code before `fix: code2 …`: the vectorised and the scalar version disagree below `−1` (witness: `α = −2`). -/
theorem code2_prefix_fast_ne_slow :
    fast2_prefix (8 : ℝ) 10 13 (-2) ≠ slow2_prefix (8 : ℝ) 10 13 (-2) := by
  rw [fast2_prefix_real, slow2_prefix_real, c2a_real, c2b_real]; norm_num

/-! ## code 4p -/

theorem code4p_neutral (dn nom up : ℝ) : slow4p dn nom up 0 = 0 := by
  rw [slow4p_of_abs_le (by norm_num) zero_le_one, core4p, zero_mul]
theorem code4p_at_plus_one (dn nom up : ℝ) : slow4p dn nom up 1 = up - nom := by
  rw [slow4p_of_one_le le_rfl, mul_one]
theorem code4p_at_minus_one (dn nom up : ℝ) : slow4p dn nom up (-1) = dn - nom := by
  rw [slow4p_of_le_neg_one le_rfl]; ring

theorem code4p_extrapolation (dn nom up a : ℝ) :
    (1 < a → slow4p dn nom up a = (up - nom) * a) ∧ (a < -1 → slow4p dn nom up a = (nom - dn) * a) :=
  ⟨fun h => slow4p_of_one_le h.le, fun h => slow4p_of_le_neg_one h.le⟩

theorem code4p_fast_eq_slow (dn nom up a : ℝ) : fast4p dn nom up a = slow4p dn nom up a := by
  rw [fast4p_real]
  split_ifs with h1 h2
  · rw [slow4p_of_le_neg_one h1.le]; ring
  · rw [slow4p_of_one_le h2.le]; ring
  · rw [slow4p_of_abs_le (not_lt.mp h1) (not_lt.mp h2), core4p]; ring

/-- first derivative of code 4p -/
noncomputable def d4p (dn nom up a : ℝ) : ℝ :=
  if 1 < a then up - nom
  else if -1 < a then core4p' (s4p dn nom up) (a4p dn nom up) a
  else nom - dn

/-- second derivative of code 4p -/
noncomputable def dd4p (dn nom up a : ℝ) : ℝ :=
  if 1 < a then 0
  else if -1 < a then core4p'' (a4p dn nom up) a
  else 0

/-- code 4p is differentiable everywhere (C¹ seam at `±1`) -/
theorem code4p_c1 (dn nom up a : ℝ) : HasDerivAt (slow4p dn nom up) (d4p dn nom up a) a :=
  Glued.hasDerivAt (a := -1) (b := 1)
    ⟨fun _ h => (slow4p_of_le_neg_one h).trans (add_zero _).symm, fun _ => slow4p_of_abs_le,
      fun _ h => (slow4p_of_one_le h).trans (add_zero _).symm⟩
    (.of_ite (by norm_num) (core4p'_neg_one dn nom up).symm (core4p'_one dn nom up)) (by norm_num)
    (lin_hasDerivAt _ 0) (core4p_hasDerivAt _ _) (lin_hasDerivAt _ 0) a

/-- the derivative of code 4p is itself differentiable everywhere (C² seam at `±1`) -/
theorem code4p_c2 (dn nom up a : ℝ) : HasDerivAt (d4p dn nom up) (dd4p dn nom up a) a :=
  Glued.hasDerivAt (a := -1) (b := 1)
    (.of_ite (by norm_num) (core4p'_neg_one dn nom up).symm (core4p'_one dn nom up))
    (.of_ite (by norm_num) (by norm_num [core4p'']) (by norm_num [core4p''])) (by norm_num)
    (fun x => hasDerivAt_const x _) (core4p'_hasDerivAt _ _) (fun x => hasDerivAt_const x _) a

theorem code4p_continuous (dn nom up : ℝ) : Continuous fun a => slow4p dn nom up a :=
  continuous_of_hasDerivAt (code4p_c1 dn nom up)

/-! ## code 4 -/

/-- **The typed inverse matrix is correct.** For every `α0 ≠ 0` and every right-hand side `b`,
the sextic `1 + Σ cᵢ αⁱ` with `c = A_inverse · b` (`A_inverse` exactly as typed in `code4.py`,
shared by the vectorised and scalar implementations, so the test-suite compares it with itself)
satisfies all six boundary conditions. -/
theorem code4_coefficients_solve_bc (a0 : ℝ) (h0 : a0 ≠ 0) (b : Vec6 ℝ) :
    poly6 (code4Coeffs a0 b) a0 = 1 + b.x1 ∧ poly6 (code4Coeffs a0 b) (-a0) = 1 + b.x2 ∧
    dpoly6 (code4Coeffs a0 b) a0 = b.x3 ∧ dpoly6 (code4Coeffs a0 b) (-a0) = b.x4 ∧
    ddpoly6 (code4Coeffs a0 b) a0 = b.x5 ∧ ddpoly6 (code4Coeffs a0 b) (-a0) = b.x6 :=
  code4Coeffs_bc h0 b

theorem code4_neutral (a0 dn nom up : ℝ) (h0 : 0 < a0) : slow4 realPrim a0 dn nom up 0 = 1 := by
  rw [slow4_of_abs_lt (by linarith) h0, poly6_zero]

theorem code4_at_plus_one (a0 dn nom up : ℝ) (h1 : a0 ≤ 1) :
    slow4 realPrim a0 dn nom up 1 = up / nom := by
  rw [slow4_of_le h1, Real.rpow_one]

theorem code4_at_minus_one (a0 dn nom up : ℝ) (h0 : 0 < a0) (h1 : a0 ≤ 1) :
    slow4 realPrim a0 dn nom up (-1) = dn / nom := by
  rw [slow4_of_le_neg h0 (by linarith), neg_neg, Real.rpow_one]

/-- exponent of the matching side beyond `±α0` -/
theorem code4_extrapolation (a0 dn nom up a : ℝ) (h0 : 0 < a0) :
    (a0 ≤ a → slow4 realPrim a0 dn nom up a = (up / nom) ^ a) ∧
    (a ≤ -a0 → slow4 realPrim a0 dn nom up a = (dn / nom) ^ (-a)) :=
  ⟨slow4_of_le, slow4_of_le_neg h0⟩

theorem code4_fast_eq_slow (a0 dn nom up a : ℝ) (h0 : 0 < a0) :
    fast4 realPrim a0 dn nom up a = slow4 realPrim a0 dn nom up a := by
  unfold fast4
  simp only [sel_decide, absK_real, realPrim_pow]
  rcases le_or_gt a0 a with h | h
  · rw [slow4_of_le h, if_pos (by linarith), if_pos h, abs_of_nonneg (by linarith), if_pos h]
  rcases lt_or_ge (-a0) a with h' | h'
  · rw [slow4_of_abs_lt h' h, if_pos h', if_neg h.not_ge, if_neg (abs_lt.mpr ⟨h', h⟩).not_ge,
      Real.rpow_one]
  · rw [slow4_of_le_neg h0 h', if_neg h'.not_gt, abs_of_nonpos (by linarith),
      if_pos (by linarith)]

/-! The two exponential pieces of code 4 with their first and second derivatives (the middle piece is the sextic `poly6`, whose
derivatives are in `Lemmas/InterpReal.lean`). -/
noncomputable def up4 (du a : ℝ) : ℝ := du ^ a
noncomputable def dn4 (dd a : ℝ) : ℝ := dd ^ (-a)

theorem up4_hasDerivAt (du : ℝ) (h : 0 < du) (a : ℝ) :
    HasDerivAt (up4 du) (Real.log du * du ^ a) a := by
  have := (hasDerivAt_id' a).const_rpow h
  refine this.congr_deriv ?_; ring

theorem up4'_hasDerivAt (du : ℝ) (h : 0 < du) (a : ℝ) :
    HasDerivAt (fun a => Real.log du * du ^ a) (Real.log du ^ 2 * du ^ a) a := by
  have := ((hasDerivAt_id' a).const_rpow h).const_mul (Real.log du)
  refine this.congr_deriv ?_; ring

theorem dn4_hasDerivAt (dd : ℝ) (h : 0 < dd) (a : ℝ) :
    HasDerivAt (dn4 dd) (-Real.log dd * dd ^ (-a)) a := by
  have := (hasDerivAt_neg' a).const_rpow h
  refine this.congr_deriv ?_; ring

theorem dn4'_hasDerivAt (dd : ℝ) (h : 0 < dd) (a : ℝ) :
    HasDerivAt (fun a => -Real.log dd * dd ^ (-a)) (Real.log dd ^ 2 * dd ^ (-a)) a := by
  have := ((hasDerivAt_neg' a).const_rpow h).const_mul (-Real.log dd)
  refine this.congr_deriv ?_; ring

/-- first derivative of code 4 -/
noncomputable def d4 (a0 dn nom up a : ℝ) : ℝ :=
  if a0 < a then Real.log (up / nom) * (up / nom) ^ a
  else if -a0 < a then dpoly6 (code4Coeffs a0 (code4Rhs realPrim a0 (up / nom) (dn / nom))) a
  else -Real.log (dn / nom) * (dn / nom) ^ (-a)

/-- second derivative of code 4 -/
noncomputable def dd4 (a0 dn nom up a : ℝ) : ℝ :=
  if a0 < a then Real.log (up / nom) ^ 2 * (up / nom) ^ a
  else if -a0 < a then ddpoly6 (code4Coeffs a0 (code4Rhs realPrim a0 (up / nom) (dn / nom))) a
  else Real.log (dn / nom) ^ 2 * (dn / nom) ^ (-a)

/-- code 4 is differentiable on the whole line: value and slope of the sextic match the
exponential pieces at `±α0` -/
theorem code4_c1 (a0 dn nom up a : ℝ) (h0 : 0 < a0) (hd : 0 < dn) (hn : 0 < nom) (hu : 0 < up) :
    HasDerivAt (slow4 realPrim a0 dn nom up) (d4 a0 dn nom up a) a := by
  obtain ⟨-, -, b3, b4, -⟩ := core4_bc h0.ne' (up / nom) (dn / nom)
  exact Glued.hasDerivAt (a := -a0) (b := a0)
    ⟨fun _ => slow4_of_le_neg h0, fun _ => slow4_of_abs_le h0, fun _ => slow4_of_le⟩
    (.of_ite (by linarith) (by rw [b4, neg_neg]) b3) (by linarith)
    (dn4_hasDerivAt _ (div_pos hd hn)) (poly6_hasDerivAt _) (up4_hasDerivAt _ (div_pos hu hn)) a

/-- the derivative of code 4 is itself differentiable: curvature matches at `±α0` (C²) -/
theorem code4_c2 (a0 dn nom up a : ℝ) (h0 : 0 < a0) (hd : 0 < dn) (hn : 0 < nom) (hu : 0 < up) :
    HasDerivAt (d4 a0 dn nom up) (dd4 a0 dn nom up a) a := by
  obtain ⟨-, -, b3, b4, b5, b6⟩ := core4_bc h0.ne' (up / nom) (dn / nom)
  exact Glued.hasDerivAt (a := -a0) (b := a0)
    (.of_ite (by linarith) (by rw [b4, neg_neg]) b3) (.of_ite (by linarith) (by rw [b6, neg_neg]) b5)
    (by linarith) (dn4'_hasDerivAt _ (div_pos hd hn)) (dpoly6_hasDerivAt _)
    (up4'_hasDerivAt _ (div_pos hu hn)) a

theorem code4_continuous (a0 dn nom up : ℝ) (h0 : 0 < a0) (hd : 0 < dn) (hn : 0 < nom) (hu : 0 < up) :
    Continuous fun a => slow4 realPrim a0 dn nom up a :=
  continuous_of_hasDerivAt fun a => code4_c1 a0 dn nom up a h0 hd hn hu

/-! ## call history (cache state machine) -/

/-- run a history of calls and backend switches; the second component is the backend tag that
is current after the history (a `backendChanged t` step is the subscription callback fired by
the switch to `t`) -/
def runHistory (c : Cache) (cur : Nat) : List Op → Cache × Nat
  | [] => (c, cur)
  | .call s :: ops => runHistory (c.step (.call s)) cur ops
  | .backendChanged t :: ops => runHistory (c.step (.backendChanged t)) t ops

/-- Invariant: the cached tensors live on the current backend. -/
theorem cache_backend_inv (c : Cache) (cur : Nat) (ops : List Op) (h : c.backend = cur) :
    (runHistory c cur ops).1.backend = (runHistory c cur ops).2 := by
  induction ops generalizing c cur with
  | nil => simpa [runHistory]
  | cons op ops ih =>
    cases op with
    | call s =>
      apply ih
      simp only [Cache.step, Cache.precomputeAlphasets]
      split <;> simpa
    | backendChanged t =>
      apply ih
      simp [Cache.step, Cache.precompute]

/-- **Call-history independence.** After *any* history of calls with arbitrary alpha-set shapes
and backend switches, the cache used to evaluate a call with shape `s` is exactly the cache a
fresh interpolator created on the current backend uses for that call: masks/bases of shape `s`
on the current backend. -/
theorem call_history_independent (nsysts tag : Nat) (ops : List Op) (s : Nat × Nat) :
    let r := runHistory (Cache.init nsysts tag) tag ops
    r.1.step (.call s) = (Cache.init nsysts r.2).step (.call s) := by
  -- a call leaves the shape it was made with and keeps the backend
  have key : ∀ c : Cache, c.step (.call s) = ⟨s, c.backend⟩ := by
    rintro ⟨sh, b⟩
    simp only [Cache.step, Cache.precomputeAlphasets]
    split_ifs with h
    · rw [h]
    · rfl
  intro r
  rw [key, key]
  exact congrArg _ (cache_backend_inv _ _ ops rfl)

end Pyhf.Props.C03
