import PyhfModel.Infer
import PyhfProofs.Lemmas.NpInterp
import PyhfProofs.Lemmas.RealPrim
import Mathlib.Data.Real.Basic
import Mathlib.Tactic.Linarith
import Mathlib.Tactic.Ring
/-!
# C09 — upper limits solve CLs(μ) = level at the requested level
Interpolation on a grid (`numpy.interp` semantics), the threshold actually used, bracket bookkeeping.
The root finder `toms748` is external (it returns a point of the bracket it is given).
-/
namespace Pyhf.Props.C09
open Pyhf.Infer

/-- beyond the first cell the interpolation moves on to the next cell -/
theorem npInterp_skip (x x0 x1 f0 : ℝ) (xs fs : List ℝ) (h : x1 ≤ x) (h01 : x0 < x1) :
    npInterp x (x0 :: x1 :: xs) (f0 :: fs) = npInterp x (x1 :: xs) fs :=
  npInterp_cons_skip x x0 f0 (x1 :: xs) fs (h01.trans_le h) (by simpa using h) (by simp)

/-- inside a cell the result is the linear interpolant of the two cell values -/
theorem npInterp_cell (x x0 x1 f0 f1 : ℝ) (xs fs : List ℝ) (h0 : x0 < x) (h1 : x < x1) :
    npInterp x (x0 :: x1 :: xs) (f0 :: f1 :: fs) = f0 + (x - x0) * ((f1 - f0) / (x1 - x0)) := by
  have h : ¬ x ≤ x0 := by linarith
  simp [npInterp, h, h1]

/-- the linear interpolant inside a cell lies between the two cell values -/
theorem npInterp_cell_between (x x0 x1 f0 f1 : ℝ) (h0 : x0 < x) (h1 : x < x1) :
    min f0 f1 ≤ f0 + (x - x0) * ((f1 - f0) / (x1 - x0)) ∧ f0 + (x - x0) * ((f1 - f0) / (x1 - x0)) ≤ max f0 f1 := by
  have hd : 0 < x1 - x0 := by linarith
  have ht0 : 0 ≤ (x - x0) / (x1 - x0) := div_nonneg (by linarith) hd.le
  have ht1 : 0 ≤ 1 - (x - x0) / (x1 - x0) := by rw [sub_nonneg, div_le_one hd]; linarith
  -- a convex combination of `f0` and `f1`
  have e : f0 + (x - x0) * ((f1 - f0) / (x1 - x0))
      = (1 - (x - x0) / (x1 - x0)) • f0 + ((x - x0) / (x1 - x0)) • f1 := by
    simp only [smul_eq_mul]; ring
  rw [e]
  exact ⟨Convex.min_le_combo f0 f1 ht1 ht0 (sub_add_cancel _ _),
    Convex.combo_le_max f0 f1 ht1 ht0 (sub_add_cancel _ _)⟩

/-- at a grid point the value there is returned; below the first abscissa the first value (clamping) -/
theorem npInterp_clamp_low (x x0 f0 : ℝ) (xs fs : List ℝ) (h : x ≤ x0) (x1 : ℝ) :
    npInterp x (x0 :: x1 :: xs) (f0 :: fs) = f0 := by
  simp [npInterp, h]

/-- **grid scan**: the limit for a curve is `numpy.interp` of the *caller's* level on the reversed curve -/
theorem grid_scan_uses_level (level : ℝ) (scan curve : List ℝ) :
    gridLimit level scan curve = npInterp level curve.reverse scan.reverse := rfl

/-- a decreasing CLs curve sampled on an increasing scan crossing the level inside the cell `[μ₀, μ₁]` gives a
limit inside that cell (two-point case; longer grids reduce to it by `npInterp_skip`) -/
theorem grid_limit_in_crossing_cell (level mu0 mu1 c0 c1 : ℝ) (hlo : c1 < level) (hhi : level < c0) :
    min mu0 mu1 ≤ gridLimit level [mu0, mu1] [c0, c1] ∧ gridLimit level [mu0, mu1] [c0, c1] ≤ max mu0 mu1 := by
  have e : gridLimit level [mu0, mu1] [c0, c1] = npInterp level [c1, c0] [mu1, mu0] := rfl
  rw [e, npInterp_cell level c1 c0 mu1 mu0 [] [] hlo hhi]
  have := npInterp_cell_between level c1 c0 mu1 mu0 hlo hhi
  rw [min_comm, max_comm]; exact this

/-- **the threshold actually used is the one the caller passed, whichever scan mode is chosen** -/
theorem upper_limit_forwards_level (level : ℝ) (scanGiven : Bool) : upperLimitLevel level scanGiven = level := rfl

/-- **Finding F2 (repaired by `fix: upper_limit forwards the requested level …`)**: in the code before that commit
(`upperLimitLevel_prefix`) the automatic scan ignored a non-default level -/
theorem auto_scan_dropped_level_prefix : upperLimitLevel_prefix (0.2 : ℝ) false ≠ 0.2 := by
  simp only [upperLimitLevel_prefix, Bool.false_eq_true, if_false]; norm_num

/-! ### bracket bookkeeping -/

theorem pick_mem (pick : Option (ℝ × ℝ) → ℝ × ℝ → Option (ℝ × ℝ))
    (hp : ∀ acc p r, pick acc p = some r → r = p ∨ acc = some r)
    (l : List (ℝ × ℝ)) (init : Option (ℝ × ℝ)) (a : ℝ × ℝ) (h : l.foldl pick init = some a) : a ∈ l ∨ init = some a := by
  induction l generalizing init with
  | nil => right; simpa using h
  | cons p ps ih =>
    rcases ih _ h with h1 | h1
    · left; exact List.mem_cons_of_mem _ h1
    · rcases hp init p a h1 with h2 | h2
      · left; rw [h2]; simp
      · right; exact h2

theorem pickMin_cases (acc : Option (ℝ × ℝ)) (p r : ℝ × ℝ) (h : pickMin acc p = some r) : r = p ∨ acc = some r := by
  unfold pickMin at h
  cases acc with
  | none => left; simpa using h.symm
  | some a =>
    simp only [] at h
    split_ifs at h
    · left; simpa using h.symm
    · right; exact h

theorem pickMax_cases (acc : Option (ℝ × ℝ)) (p r : ℝ × ℝ) (h : pickMax acc p = some r) : r = p ∨ acc = some r := by
  unfold pickMax at h
  cases acc with
  | none => left; simpa using h.symm
  | some a =>
    simp only [] at h
    split_ifs at h
    · left; simpa using h.symm
    · right; exact h

/-- **the bracket handed to the root finder is valid**: both ends are cached scan points, `f ≥ 0` at the lower end
and `f < 0` at the upper end, so the curve crosses the level between them -/
theorem best_bracket_valid (cache : List (ℝ × ℝ)) (lo hi : ℝ) (h : bestBracket cache = some (lo, hi)) :
    ∃ flo fhi, (lo, flo) ∈ cache ∧ (hi, fhi) ∈ cache ∧ 0 ≤ flo ∧ fhi < 0 := by
  unfold bestBracket at h
  simp only [] at h
  split at h
  · rename_i a b ha hb
    cases h
    have hma : a ∈ _ := (pick_mem pickMin pickMin_cases _ none a ha).resolve_right (by simp)
    have hmb : b ∈ _ := (pick_mem pickMax pickMax_cases _ none b hb).resolve_right (by simp)
    rw [List.mem_filter] at hma hmb
    refine ⟨a.2, b.2, hma.1, hmb.1, ?_, ?_⟩
    · have := hma.2; simp at this; exact this
    · have := hmb.2; simp at this; exact this
  · cases h

end Pyhf.Props.C09
