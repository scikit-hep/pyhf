import PyhfProofs.Lemmas.Find
import PyhfProofs.Lemmas.Join
import Mathlib.Data.String.Basic
/-!
# C16 — workspace combine, prune, rename and sort act as advertised (list/dictionary algebra)

About `PyhfModel/Workspace.lean` (`_join_items` and the per-section joins, `combine`, item-level prune / rename / sort) and
`PyhfModel/Prune.lean` (`_prune_and_rename` on the nested document).  What the operations do to the likelihood is in the continuation
files: `C16_Combine` (main likelihood additive), `C16_Perm` (sorting), `C16_Gen` / `C16_GenJoin` (the production code).
-/
set_option linter.unusedSectionVars false
namespace Pyhf.Props.C16
open Pyhf.WS

variable {α : Type} [DecidableEq α]

theorem foldl_append_all (l : List (Item α)) (r : List (Item α)) (p : Item α → Bool) :
    r.foldl (fun joined s => if p s then joined ++ [s] else joined) l = l ++ r.filter p := by
  induction r generalizing l with
  | nil => simp
  | cons s r ih =>
    by_cases h : p s = true <;> simp [h, ih]

/-- join `none` without deep merge appends every item of the right workspace -/
theorem joinItems_none (l r : List (Item α)) : joinItems .none l r none = l ++ r := by
  unfold joinItems
  simpa using foldl_append_all l r fun _ => true

/-- **disjoint inputs: the combination contains every item of both, unchanged, left ones first** -/
theorem join_none_disjoint_is_append (l r : List (Item α)) (h : commonNames l r = false) :
    joinChecked .none l r none = .ok (l ++ r) := by
  unfold joinChecked; simp [h, joinItems_none]

/-- **join `none` refuses any common name** -/
theorem join_none_refuses_common (l r : List (Item α)) (m : Option (α → α → α)) (h : commonNames l r = true) :
    joinChecked .none l r m = .error .invalidWorkspaceOperation := by
  unfold joinChecked; simp [h]

/-- join `outer` keeps the left items and appends the right items that are not *identical* to a left item -/
theorem joinItems_outer (l r : List (Item α)) : joinItems .outer l r none = l ++ r.filter (fun s => !l.contains s) := by
  unfold joinItems
  simp only [reduceCtorEq, if_false, Option.isSome_none, Bool.and_false, Bool.false_eq_true, decide_false, Bool.false_or,
    decide_true, Bool.true_and, Bool.or_self, Bool.false_and, Bool.or_false]
  exact foldl_append_all l r _

/-- **overlapping-identical inputs: an item present identically on both sides appears once** -/
theorem join_outer_identical_once (l r : List (Item α)) (h : ∀ s ∈ r, s ∈ l) : joinItems .outer l r none = l := by
  rw [joinItems_outer, List.filter_eq_nil_iff.2 fun s hs => by simp [h s hs], List.append_nil]

/-- **overlapping-conflicting inputs are refused**: a right item with the name of a left item but a different body -/
theorem join_outer_refuses_conflict (l r : List (Item α)) (a b : Item α) (ha : a ∈ l) (hb : b ∈ r)
    (hname : a.name = b.name) (hnl : b ∉ l) : joinChecked .outer l r none = .error .invalidWorkspaceOperation := by
  have hdup : hasDupName (l ++ r.filter fun s => !l.contains s) = true := by
    rw [hasDupName_iff, names, List.map_append, List.nodup_append]
    exact fun h => h.2.2 _ (List.mem_map_of_mem ha) _ (List.mem_map_of_mem (List.mem_filter.2 ⟨hb, by simpa using hnl⟩)) hname
  simp only [joinChecked, joinItems_outer, hdup, if_true]

/-- left-outer join: left items win, right items are added only under new names (right-outer symmetric) -/
theorem left_outer_prefers_left (l r : List (Item α)) :
    joinItems .leftOuter l r none = l ++ r.filter (fun s => !(names l).contains s.name) := by
  unfold joinItems
  simp only [reduceCtorEq, if_false, Option.isSome_none, Bool.and_false, Bool.false_eq_true, decide_false, Bool.false_or,
    Bool.false_and, decide_true, Bool.true_or, Bool.true_and]
  exact foldl_append_all l r _

theorem right_outer_prefers_right (l r : List (Item α)) :
    joinItems .rightOuter l r none = r ++ l.filter (fun s => !(names r).contains s.name) := by
  unfold joinItems
  simp only [if_true, Option.isSome_none, Bool.and_false, Bool.false_eq_true, if_false, reduceCtorEq, decide_false, Bool.false_or,
    Bool.false_and, decide_true, Bool.or_true, Bool.true_and]
  exact foldl_append_all r l _

variable {σ ο π : Type} [DecidableEq σ] [DecidableEq ο] [DecidableEq π]

/-- different versions are refused, whatever the join mode -/
theorem combine_refuses_version_mismatch (L R : Workspace σ ο π) (j : Join) (h : L.version ≠ R.version) :
    combine L R j false = .error .invalidWorkspaceOperation := by
  unfold combine; simp [h]

/-- channel merging with the join mode that forbids overlap is refused -/
theorem combine_refuses_merge_with_none (L R : Workspace σ ο π) : combine L R .none true = .error .valueError := by
  unfold combine; simp

/-- **combining two workspaces with disjoint channels, observations and measurements yields every channel,
observation and measurement of both, unchanged** -/
theorem combine_disjoint (L R : Workspace σ ο π) (hv : L.version = R.version)
    (hc : commonNames L.channels R.channels = false) (ho : commonNames L.observations R.observations = false)
    (hm : commonNames L.measurements R.measurements = false) :
    combine L R .none false = .ok { channels := L.channels ++ R.channels, observations := L.observations ++ R.observations,
                                     measurements := L.measurements ++ R.measurements, version := L.version } := by
  unfold combine
  simp only [Bool.false_and, Bool.false_eq_true, if_false, hv, ne_eq, not_true_eq_false]
  rw [join_none_disjoint_is_append _ _ hc, join_none_disjoint_is_append _ _ ho]
  simp only [joinMeasurements, hm, Bool.false_eq_true, if_false, joinItems_none]

/-! ### prune / rename / sort -/

/-- pruning removes exactly the named items and keeps the others unchanged, in order -/
theorem prune_removes_exactly (xs : List (Item α)) (drop : List String) (x : Item α) :
    x ∈ pruneItems xs drop ↔ x ∈ xs ∧ x.name ∉ drop := by
  simp [pruneItems]

theorem prune_sublist (xs : List (Item α)) (drop : List String) : (pruneItems xs drop).Sublist xs :=
  List.filter_sublist

/-- renaming is a pure relabelling: bodies and order are untouched -/
theorem rename_bodies (xs : List (Item α)) (f : String → String) : (renameItems xs f).map (·.body) = xs.map (·.body) := by
  simp [renameItems, List.map_map, Function.comp_def]

/-- the inverse renaming (`g ∘ f` the identity on the names present) undoes a renaming -/
theorem rename_inverse (xs : List (Item α)) (f g : String → String) (h : ∀ x ∈ xs, g (f x.name) = x.name) :
    renameItems (renameItems xs f) g = xs := by
  unfold renameItems
  rw [List.map_map]
  exact (List.map_congr_left fun ⟨n, b⟩ hx => by simpa using h ⟨n, b⟩ hx).trans (List.map_id xs)

theorem sort_perm (xs : List (Item α)) : (sortItems xs).Perm xs := List.mergeSort_perm _ _

theorem sort_sorted (xs : List (Item α)) : (sortItems xs).Pairwise (fun a b => a.name ≤ b.name) := by
  have := List.pairwise_mergeSort (le := fun (a b : Item α) => decide (a.name ≤ b.name))
    (fun a b c hab hbc => by simp at *; exact le_trans hab hbc) (fun a b => by simp; exact le_total _ _) xs
  exact this.imp (fun h => by simpa using h)

/-- **sorting is canonical**: two listings of the same items (names unique) sort to the same list -/
theorem sorted_perm_canonical (xs ys : List (Item α)) (h : xs.Perm ys) (hnd : (names xs).Nodup) :
    sortItems xs = sortItems ys :=
  ((sort_perm xs).trans (h.trans (sort_perm ys).symm)).eq_of_sorted_key (key := Item.name)
    (((sort_perm xs).map Item.name).nodup_iff.2 hnd) (sort_sorted xs) (sort_sorted ys)

/-- **sorting is idempotent** -/
theorem sorted_idempotent (xs : List (Item α)) (hnd : (names xs).Nodup) : sortItems (sortItems xs) = sortItems xs :=
  (sorted_perm_canonical xs (sortItems xs) (sort_perm xs).symm hnd).symm

/-! ### `_prune_and_rename` on the full nested document -/

theorem getD_nil (k : String) : getD [] k = k := rfl

/-- pruned channels: exactly the named channels go, the survivors keep their order -/
theorem prune_channels_exact (r : PReq) (cs : List PChan) (c' : PChan) :
    c' ∈ applyChannels r cs ↔
      ∃ c ∈ cs, c.name ∉ r.pruneChannels ∧ c' = { name := getD r.renChannels c.name, samples := applySamples r c.samples } := by
  simp only [applyChannels, List.mem_map_filter_iff, Bool.not_eq_true', List.contains_eq_mem, decide_eq_false_iff_not]

/-- observations follow the channels -/
theorem prune_observations_exact (r : PReq) (os : List PObs) (o' : PObs) :
    o' ∈ applyObs r os ↔ ∃ o ∈ os, o.name ∉ r.pruneChannels ∧ o' = { o with name := getD r.renChannels o.name } := by
  simp only [applyObs, List.mem_map_filter_iff, Bool.not_eq_true', List.contains_eq_mem, decide_eq_false_iff_not]

/-- pruned modifiers: exactly those named or of a named type go -/
theorem prune_modifiers_exact (r : PReq) (ms : List PMod) (m' : PMod) :
    m' ∈ applyMods r ms ↔
      ∃ m ∈ ms, m.name ∉ r.pruneMods ∧ m.type ∉ r.pruneTypes ∧ m' = { m with name := getD r.renMods m.name } := by
  simp only [applyMods, keepMod, List.mem_map_filter_iff, Bool.and_eq_true, Bool.not_eq_true', List.contains_eq_mem,
    decide_eq_false_iff_not, and_assoc]

/-- parameter configurations leave only with modifiers pruned **by name**: pruning by type (or anything else)
keeps every configuration — a name can be shared with a modifier of a surviving type -/
theorem prune_parameter_configs_exact (r : PReq) (ps : List PPar) (p' : PPar) :
    p' ∈ applyPars r ps ↔ ∃ p ∈ ps, p.name ∉ r.pruneMods ∧ p' = { p with name := getD r.renMods p.name } := by
  simp only [applyPars, List.mem_map_filter_iff, Bool.not_eq_true', List.contains_eq_mem, decide_eq_false_iff_not]

theorem prune_by_type_keeps_parameter_configs (r : PReq) (h1 : r.pruneMods = []) (h2 : r.renMods = []) (ps : List PPar) :
    applyPars r ps = ps := by
  simp [applyPars, h1, h2, getD_nil]

/-- an empty request changes nothing -/
theorem prune_nothing_is_identity (w : PWs) : applyReq {} w = w := by
  simp [applyReq, applyChannels, applyMeas, applyObs, applySamples_of_nil {} rfl rfl rfl rfl rfl,
    prune_by_type_keeps_parameter_configs {} rfl rfl, getD_nil]

/-- a request that only removes channels leaves every surviving channel literally unchanged (hence, by C01, its
rates and its share of the likelihood) -/
theorem prune_channels_only_remainder_unchanged (drop : List String) (w : PWs) :
    (applyReq { pruneChannels := drop } w).channels = w.channels.filter (fun c => !drop.contains c.name) ∧
    (applyReq { pruneChannels := drop } w).measurements = w.measurements ∧
    (applyReq { pruneChannels := drop } w).observations = w.observations.filter (fun o => !drop.contains o.name) := by
  refine ⟨?_, ?_, ?_⟩
  · simp [applyReq, applyChannels, applySamples_of_nil { pruneChannels := drop } rfl rfl rfl rfl rfl, getD_nil]
  · simp [applyReq, applyMeas, prune_by_type_keeps_parameter_configs { pruneChannels := drop } rfl rfl, getD_nil]
  · simp [applyReq, applyObs, getD_nil]

/-- unknown names are refused, whatever else the request contains -/
theorem prune_unknown_channel_refused (r : PReq) (w : PWs) (n : String) (hn : n ∈ r.pruneChannels ∨ n ∈ r.renChannels.map (·.1))
    (hw : n ∉ w.channelNames) : pruneRename r w = .error .invalidWorkspaceOperation := by
  have : r.valid w = false := by
    unfold PReq.valid
    have : (r.pruneChannels ++ r.renChannels.map (·.1)).all (w.channelNames.contains ·) = false := by
      rw [List.all_eq_false]
      exact ⟨n, by simpa using hn, by simpa using hw⟩
    rw [this]; simp
  simp [pruneRename, this]

theorem prune_unknown_type_refused (r : PReq) (w : PWs) (t : String) (ht : t ∈ r.pruneTypes) (hw : t ∉ w.modTypes) :
    pruneRename r w = .error .invalidWorkspaceOperation := by
  have : r.valid w = false := by
    unfold PReq.valid
    have : r.pruneTypes.all (w.modTypes.contains ·) = false := by
      rw [List.all_eq_false]
      exact ⟨t, ht, by simpa using hw⟩
    rw [this]; simp
  simp [pruneRename, this]

/-- renaming channels, then renaming back, restores the channel list -/
theorem rename_channels_roundtrip (f g : List (String × String)) (cs : List PChan)
    (h : ∀ c ∈ cs, getD g (getD f c.name) = c.name) :
    applyChannels { renChannels := g } (applyChannels { renChannels := f } cs) = cs := by
  have hs : ∀ (q : List (String × String)) (ss : List PSample), applySamples { renChannels := q } ss = ss :=
    fun q => applySamples_of_nil _ rfl rfl rfl rfl rfl
  simp only [applyChannels, List.contains_nil, Bool.not_false, List.filter_true, List.map_map, hs]
  exact (List.map_congr_left fun ⟨n, ss⟩ hc => by simpa using h ⟨n, ss⟩ hc).trans (List.map_id cs)

end Pyhf.Props.C16
