import PyhfGen.Model
import PyhfProofs.Properties.C01_Gen
/-!
# C01 (continued) — whole-shape tie with the non-default interpolation codes

Shapes D and E of `PyhfGen/Model.lean` are built with `modifier_settings`: (D) piecewise-exponential normalisation (code 1) shared by two
samples and piecewise-linear shape (code 0); (E) quadratic-interpolation / linear-extrapolation shape (code 2) next to the default
normalisation code 4.  As in `C01_Gen`, `<shape>_bin<b>` is what `pyhf.Model(spec, modifier_settings=…).expected_actualdata` computes
(executed symbolically, everything symbolic) and `<shape>_ref<b>` the declared formula with the interpolation functions of C03
(`slow0`, `slow1`, `slow2`, `slow4`) — equal for all real parameters and all positive data.  With A–C every interpolation code the
schema admits (`histosys`: 0, 2, 4p; `normsys`: 1, 4) is covered on the production code.  Shapes F (bin-wise constraints only:
uncorrelated shape and MC-statistical uncertainty) and H (luminosity held constant by the measurement, an MC-statistical bin of zero
uncertainty) have no interpolated systematic: one leaf each.
-/
namespace Pyhf.Props.C01

theorem shapeD_bin0_eq (s0 s1 slo shi b0 b1 blo bhi hl0 hl1 hh0 hh1 p_sysH p_mu p_sysN : ℝ) (_hs0 : 0 < s0) (_hs1 : 0 < s1) (_hslo : 0 < slo) (_hshi : 0 < shi) (_hb0 : 0 < b0) (_hb1 : 0 < b1) (_hblo : 0 < blo) (_hbhi : 0 < bhi) (_hhl0 : 0 < hl0) (_hhl1 : 0 < hl1) (_hhh0 : 0 < hh0) (_hhh1 : 0 < hh1) :
    Gen.shapeD_bin0 realPrim s0 s1 slo shi b0 b1 blo bhi hl0 hl1 hh0 hh1 p_sysH p_mu p_sysN = Gen.shapeD_ref0 realPrim s0 s1 slo shi b0 b1 blo bhi hl0 hl1 hh0 hh1 p_sysH p_mu p_sysN := by
  unfold Gen.shapeD_bin0 Gen.shapeD_ref0
  by_cases h : 0 < p_sysH <;> by_cases k : 0 < p_sysN <;> simp only [gen_norm, h, k]
  all_goals ring1

theorem shapeD_bin1_eq (s0 s1 slo shi b0 b1 blo bhi hl0 hl1 hh0 hh1 p_sysH p_mu p_sysN : ℝ) (_hs0 : 0 < s0) (_hs1 : 0 < s1) (_hslo : 0 < slo) (_hshi : 0 < shi) (_hb0 : 0 < b0) (_hb1 : 0 < b1) (_hblo : 0 < blo) (_hbhi : 0 < bhi) (_hhl0 : 0 < hl0) (_hhl1 : 0 < hl1) (_hhh0 : 0 < hh0) (_hhh1 : 0 < hh1) :
    Gen.shapeD_bin1 realPrim s0 s1 slo shi b0 b1 blo bhi hl0 hl1 hh0 hh1 p_sysH p_mu p_sysN = Gen.shapeD_ref1 realPrim s0 s1 slo shi b0 b1 blo bhi hl0 hl1 hh0 hh1 p_sysH p_mu p_sysN := by
  unfold Gen.shapeD_bin1 Gen.shapeD_ref1
  by_cases h : 0 < p_sysH <;> by_cases k : 0 < p_sysN <;> simp only [gen_norm, h, k]
  all_goals ring1

theorem shapeE_bin0_eq (s0 b0 hl0 hh0 blo bhi p_sysH p_mu p_sysN : ℝ) (_hs0 : 0 < s0) (_hb0 : 0 < b0) (_hhl0 : 0 < hl0) (_hhh0 : 0 < hh0) (_hblo : 0 < blo) (_hbhi : 0 < bhi) :
    Gen.shapeE_bin0 realPrim s0 b0 hl0 hh0 blo bhi p_sysH p_mu p_sysN = Gen.shapeE_ref0 realPrim s0 b0 hl0 hh0 blo bhi p_sysH p_mu p_sysN := by
  unfold Gen.shapeE_bin0 Gen.shapeE_ref0
  rcases code4_regimes one_pos p_sysN with h | h | h <;> rcases code2_regimes p_sysH with k | k | k <;>
    simp only [gen_norm, h, k]
  all_goals ring1

theorem shapeF_bin0_eq (s0 s1 es0 es1 b0 b1 u0 u1 eb0 eb1 p_mu p_uncorr_0 p_uncorr_1 p_stat_SR_0 p_stat_SR_1 : ℝ) (_hs0 : 0 < s0) (_hs1 : 0 < s1) (_hes0 : 0 < es0) (_hes1 : 0 < es1) (_hb0 : 0 < b0) (_hb1 : 0 < b1) (_hu0 : 0 < u0) (_hu1 : 0 < u1) (_heb0 : 0 < eb0) (_heb1 : 0 < eb1) :
    Gen.shapeF_bin0 realPrim s0 s1 es0 es1 b0 b1 u0 u1 eb0 eb1 p_mu p_uncorr_0 p_uncorr_1 p_stat_SR_0 p_stat_SR_1 = Gen.shapeF_ref0 realPrim s0 s1 es0 es1 b0 b1 u0 u1 eb0 eb1 p_mu p_uncorr_0 p_uncorr_1 p_stat_SR_0 p_stat_SR_1 := by
  unfold Gen.shapeF_bin0 Gen.shapeF_ref0
  simp only [gen_norm]
  ring1

theorem shapeF_bin1_eq (s0 s1 es0 es1 b0 b1 u0 u1 eb0 eb1 p_mu p_uncorr_0 p_uncorr_1 p_stat_SR_0 p_stat_SR_1 : ℝ) (_hs0 : 0 < s0) (_hs1 : 0 < s1) (_hes0 : 0 < es0) (_hes1 : 0 < es1) (_hb0 : 0 < b0) (_hb1 : 0 < b1) (_hu0 : 0 < u0) (_hu1 : 0 < u1) (_heb0 : 0 < eb0) (_heb1 : 0 < eb1) :
    Gen.shapeF_bin1 realPrim s0 s1 es0 es1 b0 b1 u0 u1 eb0 eb1 p_mu p_uncorr_0 p_uncorr_1 p_stat_SR_0 p_stat_SR_1 = Gen.shapeF_ref1 realPrim s0 s1 es0 es1 b0 b1 u0 u1 eb0 eb1 p_mu p_uncorr_0 p_uncorr_1 p_stat_SR_0 p_stat_SR_1 := by
  unfold Gen.shapeF_bin1 Gen.shapeF_ref1
  simp only [gen_norm]
  ring1

theorem shapeH_bin0_eq (s0 s1 b0 b1 e0 p_lumi p_mu p_stat_SR_0 p_stat_SR_1 : ℝ) (_hs0 : 0 < s0) (_hs1 : 0 < s1) (_hb0 : 0 < b0) (_hb1 : 0 < b1) (_he0 : 0 < e0) :
    Gen.shapeH_bin0 realPrim s0 s1 b0 b1 e0 p_lumi p_mu p_stat_SR_0 p_stat_SR_1 = Gen.shapeH_ref0 realPrim s0 s1 b0 b1 e0 p_lumi p_mu p_stat_SR_0 p_stat_SR_1 := by
  unfold Gen.shapeH_bin0 Gen.shapeH_ref0
  simp only [gen_norm]
  ring1

theorem shapeH_bin1_eq (s0 s1 b0 b1 e0 p_lumi p_mu p_stat_SR_0 p_stat_SR_1 : ℝ) (_hs0 : 0 < s0) (_hs1 : 0 < s1) (_hb0 : 0 < b0) (_hb1 : 0 < b1) (_he0 : 0 < e0) :
    Gen.shapeH_bin1 realPrim s0 s1 b0 b1 e0 p_lumi p_mu p_stat_SR_0 p_stat_SR_1 = Gen.shapeH_ref1 realPrim s0 s1 b0 b1 e0 p_lumi p_mu p_stat_SR_0 p_stat_SR_1 := by
  unfold Gen.shapeH_bin1 Gen.shapeH_ref1
  simp only [gen_norm]
  ring1

end Pyhf.Props.C01
