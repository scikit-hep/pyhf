import PyhfProofs.Lemmas.Build
/-!
# C20 — structurally inconsistent specifications are refused, never partly evaluated

`buildModel` reproduces every check on pyhf's construction path, in order, with Python's failure modes as
error values (`Err.isPyhf` ⇔ one of pyhf's own exception classes).
-/
set_option linter.unusedSectionVars false
namespace Pyhf.Props.C20

variable {K : Type} [Add K] [Sub K] [Mul K] [Div K] [Neg K] [OfNat K 0] [OfNat K 1]
  [OfScientific K] [LT K] [LE K] [DecidableLT K] [DecidableLE K] [BEq K]

/-- **accept ⇒ well-formed**: an accepted specification has no repeated channel, sample or modifier entry, no
re-used uncorrelated-shape modifier, every sample and every bin-wise modifier datum of its channel's bin count,
shape factors shared only between equal bin counts, every listed modifier backed by a parameter set, and
bin-wise constrained modifiers with exactly one parameter component per bin they act on. -/
theorem accept_implies_WF (P : Prim K) (s : Spec K) (st : Settings K) (m : Model K)
    (h : buildModel P s st = .ok m) :
    specDuplicates s = false ∧ shapesysReuse s = false ∧ walkError s (mkConfig s) = none ∧
    nominalLengthsOK s (mkConfig s) = true ∧ histoBlocksOK s (mkConfig s) = true ∧
    orphanError (mkConfig s) m.ps = none ∧
    reindexError s (mkConfig s) (parSlices m.ps) .shapesys = none ∧
    reindexError s (mkConfig s) (parSlices m.ps) .staterror = none := by
  have hb := buildModel_built P s st m h
  exact ⟨hb.no_duplicates, hb.no_shapesys_reuse, hb.walk_ok, walk_nominal s _ hb.walk_ok, walk_histo s _ hb.walk_ok,
    hb.no_orphans, hb.reindex_shapesys, hb.reindex_staterror⟩

/-- nothing of the accepted content is dropped: the model evaluates exactly the specification it was given -/
theorem accepted_model_keeps_spec (P : Prim K) (s : Spec K) (st : Settings K) (m : Model K)
    (h : buildModel P s st = .ok m) : m.spec = s ∧ m.cfg = mkConfig s ∧ m.slices = parSlices m.ps := by
  have hb := buildModel_built P s st m h
  exact ⟨hb.spec_eq, hb.cfg_eq, hb.slices_eq⟩

/-- two channels with one name, two samples with one name in a channel, or one `(type, name)` modifier listed
twice on a sample: refused with `InvalidModel` -/
theorem rejects_duplicates (P : Prim K) (s : Spec K) (st : Settings K) (h : specDuplicates s = true) :
    buildModel P s st = .error .invalidModel := by
  rw [buildModel_eq, h, Bool.true_or, if_pos rfl]

/-- an uncorrelated-shape modifier used on a second sample: refused with `InvalidModel` -/
theorem rejects_shapesys_reuse (P : Prim K) (s : Spec K) (st : Settings K) (h : shapesysReuse s = true) :
    buildModel P s st = .error .invalidModel := by
  rw [buildModel_eq, h, Bool.or_true, if_pos rfl]

theorem modAppendError_isPyhf (s : Spec K) (cfg : Config) (x : Sample K) (n : String) (t : ModType) (e : Err)
    (h : modAppendError s cfg x n t = some e) : e.isPyhf = true := by
  unfold modAppendError at h
  cases hf : findMod x n t with
  | none => rw [hf] at h; cases h
  | some md =>
    rw [hf] at h
    cases t with
    | histosys | shapesys | staterror | shapefactor => cases (Option.ite_none_right_eq_some.mp h).2; rfl
    | lumi | normfactor | normsys => cases h

/-- every failure of the sorted walk (sample length, modifier data length, shape-factor bin counts) is one of
pyhf's exception classes -/
theorem walkError_isPyhf (s : Spec K) (cfg : Config) (e : Err) (h : walkError s cfg = some e) : e.isPyhf = true := by
  obtain ⟨c, _, h1⟩ := List.exists_of_findSome?_eq_some h
  obtain ⟨sm, _, h2⟩ := List.exists_of_findSome?_eq_some h1
  cases hf : findSample s c sm with
  | none => rw [hf] at h2; cases h2
  | some x =>
    rw [hf] at h2
    simp only [] at h2
    split at h2
    · cases h2; rfl
    · obtain ⟨nt, _, h3⟩ := List.exists_of_findSome?_eq_some h2
      exact modAppendError_isPyhf s cfg x nt.1 nt.2 e h3

/-- wrong sample length / wrong modifier data length / a shape factor shared between different bin counts:
the construction fails, with a pyhf exception -/
theorem rejects_walk_faults (P : Prim K) (s : Spec K) (st : Settings K) (e : Err)
    (hd : specDuplicates s = false) (hr : shapesysReuse s = false) (h : walkError s (mkConfig s) = some e) :
    buildModel P s st = .error e ∧ e.isPyhf = true := by
  refine ⟨?_, walkError_isPyhf s _ e h⟩
  rw [buildModel_eq, hd, hr, h]; rfl

/-- sample data whose length differs from the channel's bin count are caught by the walk -/
theorem wrong_sample_length_detected (s : Spec K) (c sm : String) (x : Sample K)
    (hc : c ∈ (mkConfig s).channels) (hsm : sm ∈ (mkConfig s).samples)
    (hf : findSample s c sm = some x) (hlen : x.data.length ≠ (mkConfig s).nbOf c) :
    walkError s (mkConfig s) ≠ none := by
  intro h
  have := (nominalLengthsOK_iff s _).mp (walk_nominal s _ h) c hc sm hsm
  rw [nomBlk, hf] at this
  exact hlen this

/-- an undefined or multi-component POI is refused with `InvalidModel` -/
theorem poiCheck_error_isPyhf (poi : Option String) (ps : List (Paramset K)) (sl : List (String × Nat × Nat)) (e : Err)
    (h : poiCheck poi ps sl = .error e) : e = .invalidModel := by
  unfold poiCheck at h
  cases poi with
  | none => cases h
  | some p =>
    simp only [] at h
    cases hfd : ps.find? (·.name == p) with
    | none => rw [hfd] at h; cases h; rfl
    | some q => rw [hfd] at h; simp only [] at h; split at h <;> cases h; rfl

theorem rejects_undefined_poi (ps : List (Paramset K)) (sl : List (String × Nat × Nat)) (p : String)
    (h : ps.find? (·.name == p) = none) : poiCheck (some p) ps sl = .error .invalidModel := by
  unfold poiCheck; simp [h]

/-- conflicting requirements for one parameter name (different constraint type, size, defaults):
`InvalidNameReuse` -/
theorem rejects_conflicting_paramset (name : String) (r r' : Req K) (rest : List (Req K)) (user : Option (ParCfg K))
    (hne : (r' == r) = false) (hmem : r' ∈ rest) :
    reduceOne name (r :: rest) user = .error .invalidNameReuse := by
  unfold reduceOne
  have : rest.any (fun q => !(q == r)) = true := by
    rw [List.any_eq_true]; exact ⟨r', hmem, by simp [hne]⟩
  simp [this]

/-- an override list whose length differs from the default's: `InvalidModel` -/
theorem rejects_wrong_override_length {α : Type} (d v : List α) (hd : d.length ≠ 0) (hl : v.length ≠ d.length) :
    overrideList (Fld.val d) (some v) = .error .invalidModel := by
  unfold overrideList
  simp [hd, hl]

/-- an override for an attribute the parameter set does not use: `InvalidModel` -/
theorem rejects_unused_override {α : Type} (v : List α) :
    overrideList (Fld.undef : Fld (List α)) (some v) = .error .invalidModel := rfl

end Pyhf.Props.C20
