import PyhfModel.Decl
import PyhfProofs.Lemmas.Lists
import PyhfProofs.Lemmas.Canon
import PyhfProofs.Lemmas.Lookup
/-!
# C12 — the model configuration is a consistent partition and honours overrides
Statements about `parSlices`, the suggestion lists and the auxiliary-data layout of `PyhfModel/Params.lean`,
`Config.channelSlices` (`Spec.lean`) and `workspaceData` (`Decl.lean`), for every list of parameter sets / every channel summary.
-/
namespace Pyhf.Props.C12

/-- the parameter order reported with the slices is the creation order of the paramsets -/
theorem par_slices_names {K : Type} (ps : List (Paramset K)) :
    (parSlices ps).map (·.1) = ps.map (·.name) := by
  simp [parSlices, mkSlices, mkSlices_go_names, List.map_map, Function.comp_def]

/-- **slices tile the parameter vector**: concatenating the index ranges of the slices in the
reported order enumerates `0 … Σ n_parameters − 1` exactly once each, in order (no gap, no overlap) -/
theorem par_slices_tile {K : Type} (ps : List (Paramset K)) :
    (parSlices ps).flatMap (fun x => List.range' x.2.1 (x.2.2 - x.2.1)) =
      List.range ((ps.map (·.n)).sum) := by
  simp only [parSlices, mkSlices, mkSlices_go_tile, List.map_map, Function.comp_def, List.range_eq_range']

/-- every slice has exactly the size of its paramset -/
theorem par_slices_sizes {K : Type} (ps : List (Paramset K)) :
    (parSlices ps).map (fun x => x.2.2 - x.2.1) = ps.map (·.n) := by
  simp [parSlices, mkSlices, mkSlices_go_sizes, List.map_map, Function.comp_def]

/-- **channel slices tile the main data** in the reported channel order -/
theorem channel_slices_tile (cfg : Config) :
    cfg.channelSlices.flatMap (fun x => List.range' x.2.1 (x.2.2 - x.2.1)) = List.range cfg.nmain := by
  simp only [Config.channelSlices, channelSlices_go_eq, mkSlices_go_tile, Config.nmain, ← List.sum_eq_foldl_nat, List.range_eq_range']

/-- channel slices are listed in the order of `config.channels` -/
theorem channel_slices_order {K : Type} (s : Spec K) :
    (mkConfig s).channelSlices.map (·.1) = (mkConfig s).channels := by
  simp [Config.channelSlices, channelSlices_go_eq, mkSlices_go_names, mkConfig, List.map_map, Function.comp_def]

/-- fixed flags: one entry per component for every paramset whose per-component tuple (if any)
has the paramset's size -/
theorem suggested_fixed_length {K : Type} (ps : List (Paramset K))
    (h : ∀ p ∈ ps, ∀ bs, p.fixed = FixedV.each bs → bs.length = p.n) :
    (suggestedFixed ps).length = (ps.map (·.n)).sum := by
  rw [suggestedFixed, List.length_flatMap]
  congr 1
  refine List.map_congr_left fun p hp => ?_
  cases hf : p.fixed with
  | all b => exact List.length_replicate
  | each bs => exact h p hp bs hf

/-- the auxiliary data has one entry per constrained component, in constraint order, provided every
constrained paramset carries auxiliary data of its own size -/
theorem auxdata_one_per_constrained_component {K : Type} (ps : List (Paramset K))
    (h : ∀ p ∈ ps, p.constrained = true → ∃ a, p.auxdata = some a ∧ a.length = p.n) :
    (auxData ps).length = ((ps.filter (·.constrained)).map (·.n)).sum := by
  rw [auxData, List.length_flatMap]
  congr 1
  refine List.map_congr_left fun p hp => ?_
  obtain ⟨a, ha, hl⟩ := h p (List.mem_filter.mp hp).1 (List.mem_filter.mp hp).2
  rw [ha]
  exact hl

/-- the constraint order lists exactly the constrained paramsets, in creation order -/
theorem aux_order_is_constrained_subsequence {K : Type} (ps : List (Paramset K)) :
    auxOrder ps = (ps.filter (·.constrained)).map (·.name) := rfl

/-! ## canonical orders and independence of the listing order -/

/-! the reported channel and sample lists are strictly increasing (`sorted(list(set(·)))` in `_ChannelSummaryMixin`) -/
theorem config_channels_strictly_sorted {K : Type} (s : Spec K) : (mkConfig s).channels.Pairwise (· < ·) :=
  canon_strictly_sorted _

theorem config_samples_strictly_sorted {K : Type} (s : Spec K) : (mkConfig s).samples.Pairwise (· < ·) :=
  canon_strictly_sorted _

/-- the reported name lists depend only on the *sets* of declared names: any re-listing of channels, of the
samples inside channels and of the modifiers inside samples that keeps those sets gives the same lists -/
theorem config_names_order_independent {K : Type} (s s' : Spec K)
    (hc : ∀ a, a ∈ s.channels.map (·.name) ↔ a ∈ s'.channels.map (·.name))
    (hs : ∀ a, a ∈ (s.channels.flatMap fun c => c.samples.map (·.name)) ↔
               a ∈ (s'.channels.flatMap fun c => c.samples.map (·.name)))
    (hm : ∀ a, a ∈ (s.channels.flatMap fun c => c.samples.flatMap fun sm => sm.mods.map fun m => (m.name, m.type.str)) ↔
               a ∈ (s'.channels.flatMap fun c => c.samples.flatMap fun sm => sm.mods.map fun m => (m.name, m.type.str))) :
    (mkConfig s).channels = (mkConfig s').channels ∧ (mkConfig s).samples = (mkConfig s').samples ∧
    (mkConfig s).modifiers = (mkConfig s').modifiers := by
  refine ⟨canon_eq_of_mem_iff _ _ hc, canon_eq_of_mem_iff _ _ hs, ?_⟩
  simp only [mkConfig]
  rw [canonPairs_eq_of_mem_iff _ _ hm]

/-- **Permuting the channel list changes nothing** in the reported summary (channels, samples, modifiers,
bin counts, hence slices), when channel names are unique. -/
theorem config_channel_perm_invariant {K : Type} (s s' : Spec K) (hpar : s'.parameters = s.parameters)
    (hperm : s.channels.Perm s'.channels) (hnd : (s.channels.map (·.name)).Nodup) :
    mkConfig s = mkConfig s' := by
  obtain ⟨h1, h2, h3⟩ := config_names_order_independent s s' (fun _ => (hperm.map _).mem_iff)
    (fun _ => (hperm.flatMap_right _).mem_iff) (fun _ => (hperm.flatMap_right _).mem_iff)
  refine PermInv.mkConfig_ext h1 h2 h3 fun c => ?_
  -- the bin count of `c` is read off the one channel of that name, found in either order
  rw [PermInv.mkConfig_nbOf, PermInv.mkConfig_nbOf]
  unfold lastSome
  rw [PermInv.filter_unique_perm _ _ _ hperm (PermInv.uniq_of_nodup_map Channel.name _ hnd c) (List.Nodup.of_map _ hnd)]

/-- **Workspace data layout**: observations concatenated in the reported channel order, then the auxiliary data
(one block per channel, so with observations of the channels' bin counts the main part has `nmaindata` entries and
bin `b` of channel `c` sits at `channel_slices[c].start + b`). -/
theorem workspace_data_layout {K : Type} (m : Model K) (obs : List (String × List K)) :
    workspaceData m obs = (m.cfg.channels.flatMap fun c => ((obs.find? (·.1 == c)).map (·.2)).getD []) ++ auxData m.ps := rfl

theorem workspace_data_length {K : Type} (m : Model K) (obs : List (String × List K))
    (hobs : ∀ c ∈ m.cfg.channels, (((obs.find? (·.1 == c)).map (·.2)).getD []).length = m.cfg.nbOf c)
    (hsum : m.cfg.nmain = (m.cfg.channels.map m.cfg.nbOf).sum) :
    (workspaceData m obs).length = m.cfg.nmain + (auxData m.ps).length := by
  simp only [workspaceData, if_true, List.length_append, List.length_flatMap, hsum]
  congr 2
  exact List.map_congr_left fun c hc => hobs c hc

end Pyhf.Props.C12
