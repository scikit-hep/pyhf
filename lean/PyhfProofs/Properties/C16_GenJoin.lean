import PyhfGen.Join
import PyhfProofs.Lemmas.Ite
import PyhfProofs.Lemmas.Join
import PyhfProofs.Properties.C16
/-!
# C16 (continued) — `_join_items` as it is written *now*, for all names and bodies

`PyhfGen/Join.lean` is regenerated on every C16 run: the real `workspace._join_items` joins two left and two right items whose names and
bodies are symbolic atoms under each of the four join modes; every `in` / `==` of the code consults the decision oracle, so all
feasible combinations of equalities are enumerated.  The theorems state that the result — which items survive, in which order — is the
model's `WS.joinItems`, for **all** strings and bodies (no assumption that names are distinct).

Every proof but the last (`gen_join_meas_outer`, by cases on the four equalities) has the same three steps.  The model side is brought into closed form by the filter equation of its join mode (C16) on the
two-item lists, each test oriented as the generated tree has it (`contains_eq_any` where the model asks the other way round); for the
outer join, whose tests compare whole items, the filter is also evaluated down to tests on names and bodies there, once, and not at
every leaf.  `ite_of_cases` walks down the generated tree (its `apply` unfolds the generated definition as it goes; unfolded up front, the
whole tree would be rewritten by the first step as well).  At a leaf the tests on the path, kept as `c = True` / `c = False`, decide
every test of the closed form and `simp` evaluates it; a leaf whose value is not the model's is left open.
-/
namespace Pyhf.Props.C16
open Pyhf.WS

variable {B : Type} [DecidableEq B]

/-- the model's join of the same four items, as (name, body) pairs -/
def modelJoin (j : Join) (nl0 nl1 nr0 nr1 : String) (bl0 bl1 br0 br1 : B) : List (String × B) :=
  (joinItems j [⟨nl0, bl0⟩, ⟨nl1, bl1⟩] [⟨nr0, br0⟩, ⟨nr1, br1⟩] none).map fun i => (i.name, i.body)

theorem gen_join_none (nl0 nl1 nr0 nr1 : String) (bl0 bl1 br0 br1 : B) :
    Gen.join_none nl0 nl1 nr0 nr1 bl0 bl1 br0 br1 = modelJoin .none nl0 nl1 nr0 nr1 bl0 bl1 br0 br1 := by
  simp only [modelJoin, joinItems_none]
  repeat' (apply ite_of_cases (· = _) <;> intro _)
  all_goals simp [*]

theorem gen_join_outer (nl0 nl1 nr0 nr1 : String) (bl0 bl1 br0 br1 : B) :
    Gen.join_outer nl0 nl1 nr0 nr1 bl0 bl1 br0 br1 = modelJoin .outer nl0 nl1 nr0 nr1 bl0 bl1 br0 br1 := by
  simp only [modelJoin, joinItems_outer, contains_eq_any, List.any_cons, List.any_nil, List.filter_cons, List.filter_nil,
    Item.mk.injEq, Bool.or_false, Bool.not_or, Bool.and_eq_true, Bool.not_eq_true', Bool.decide_and]
  repeat' (apply ite_of_cases (· = _) <;> intro _)
  all_goals simp [*]

theorem gen_join_leftOuter (nl0 nl1 nr0 nr1 : String) (bl0 bl1 br0 br1 : B) :
    Gen.join_leftOuter nl0 nl1 nr0 nr1 bl0 bl1 br0 br1 = modelJoin .leftOuter nl0 nl1 nr0 nr1 bl0 bl1 br0 br1 := by
  simp only [modelJoin, left_outer_prefers_left, names_cons, names_nil, contains_eq_any, List.any_cons, List.any_nil]
  repeat' (apply ite_of_cases (· = _) <;> intro _)
  all_goals simp [*]

theorem gen_join_rightOuter (nl0 nl1 nr0 nr1 : String) (bl0 bl1 br0 br1 : B) :
    Gen.join_rightOuter nl0 nl1 nr0 nr1 bl0 bl1 br0 br1 = modelJoin .rightOuter nl0 nl1 nr0 nr1 bl0 bl1 br0 br1 := by
  simp only [modelJoin, right_outer_prefers_right, names_cons, names_nil]
  repeat' (apply ite_of_cases (· = _) <;> intro _)
  all_goals simp [*]

/-! ### the checked joins (`_join_channels` without channel merging, `_join_observations`): join, then the post-check of the mode -/

/-- the model's checked join of the same four items; `none` = `InvalidWorkspaceOperation` -/
def modelChecked (j : Join) (nl0 nl1 nr0 nr1 : String) (bl0 bl1 br0 br1 : B) : Option (List (String × B)) :=
  match joinChecked j [⟨nl0, bl0⟩, ⟨nl1, bl1⟩] [⟨nr0, br0⟩, ⟨nr1, br1⟩] none with
  | .ok l => some (l.map fun i => (i.name, i.body))
  | .error _ => none

theorem gen_join_chan_none (nl0 nl1 nr0 nr1 : String) (bl0 bl1 br0 br1 : B) :
    Gen.join_chan_none nl0 nl1 nr0 nr1 bl0 bl1 br0 br1 = modelChecked .none nl0 nl1 nr0 nr1 bl0 bl1 br0 br1 := by
  simp only [modelChecked, joinChecked, joinItems_none]
  repeat' (apply ite_of_cases (· = _) <;> intro _)
  -- two leaves of the generated tree cannot be reached (`nl0 = nl1` after `nl1 = nr0`, `nl0 ≠ nr0`): `simp_all` finds the contradiction
  all_goals simp_all [commonNames_cons, commonNames_nil, names_cons, names_nil]

theorem gen_join_chan_outer (nl0 nl1 nr0 nr1 : String) (bl0 bl1 br0 br1 : B) :
    Gen.join_chan_outer nl0 nl1 nr0 nr1 bl0 bl1 br0 br1 = modelChecked .outer nl0 nl1 nr0 nr1 bl0 bl1 br0 br1 := by
  simp only [modelChecked, joinChecked, joinItems_outer, contains_eq_any, List.any_cons, List.any_nil, List.filter_cons,
    List.filter_nil, Item.mk.injEq, Bool.or_false, Bool.not_or, Bool.and_eq_true, Bool.not_eq_true', Bool.decide_and]
  repeat' (apply ite_of_cases (· = _) <;> intro _)
  all_goals simp [*, hasDupName_cons, hasDupName_nil, names_cons, names_nil]

theorem gen_join_chan_leftOuter (nl0 nl1 nr0 nr1 : String) (bl0 bl1 br0 br1 : B) :
    Gen.join_chan_leftOuter nl0 nl1 nr0 nr1 bl0 bl1 br0 br1 = modelChecked .leftOuter nl0 nl1 nr0 nr1 bl0 bl1 br0 br1 := by
  simp only [modelChecked, joinChecked, left_outer_prefers_left, names_cons, names_nil, contains_eq_any, List.any_cons, List.any_nil]
  repeat' (apply ite_of_cases (· = _) <;> intro _)
  all_goals simp [*]

theorem gen_join_chan_rightOuter (nl0 nl1 nr0 nr1 : String) (bl0 bl1 br0 br1 : B) :
    Gen.join_chan_rightOuter nl0 nl1 nr0 nr1 bl0 bl1 br0 br1 = modelChecked .rightOuter nl0 nl1 nr0 nr1 bl0 bl1 br0 br1 := by
  simp only [modelChecked, joinChecked, right_outer_prefers_right, names_cons, names_nil]
  repeat' (apply ite_of_cases (· = _) <;> intro _)
  all_goals simp [*]

/-! `_join_observations` runs through the same tree as `_join_channels` in every mode (the two generated definitions unfold to the same
term), so its four theorems are those of the channels. -/

theorem gen_join_obs_none (nl0 nl1 nr0 nr1 : String) (bl0 bl1 br0 br1 : B) :
    Gen.join_obs_none nl0 nl1 nr0 nr1 bl0 bl1 br0 br1 = modelChecked .none nl0 nl1 nr0 nr1 bl0 bl1 br0 br1 :=
  gen_join_chan_none nl0 nl1 nr0 nr1 bl0 bl1 br0 br1

theorem gen_join_obs_outer (nl0 nl1 nr0 nr1 : String) (bl0 bl1 br0 br1 : B) :
    Gen.join_obs_outer nl0 nl1 nr0 nr1 bl0 bl1 br0 br1 = modelChecked .outer nl0 nl1 nr0 nr1 bl0 bl1 br0 br1 :=
  gen_join_chan_outer nl0 nl1 nr0 nr1 bl0 bl1 br0 br1

theorem gen_join_obs_leftOuter (nl0 nl1 nr0 nr1 : String) (bl0 bl1 br0 br1 : B) :
    Gen.join_obs_leftOuter nl0 nl1 nr0 nr1 bl0 bl1 br0 br1 = modelChecked .leftOuter nl0 nl1 nr0 nr1 bl0 bl1 br0 br1 :=
  gen_join_chan_leftOuter nl0 nl1 nr0 nr1 bl0 bl1 br0 br1

theorem gen_join_obs_rightOuter (nl0 nl1 nr0 nr1 : String) (bl0 bl1 br0 br1 : B) :
    Gen.join_obs_rightOuter nl0 nl1 nr0 nr1 bl0 bl1 br0 br1 = modelChecked .rightOuter nl0 nl1 nr0 nr1 bl0 bl1 br0 br1 :=
  gen_join_chan_rightOuter nl0 nl1 nr0 nr1 bl0 bl1 br0 br1

/-! ### `_join_measurements`: one measurement on each side, each with one parameter configuration -/

section meas
variable {P : Type} [DecidableEq P]

def renderMeas (ms : List (Item (Meas P))) : List (String × String × List (String × P)) :=
  ms.map fun m => (m.name, m.body.poi, m.body.parameters.map fun q => (q.name, q.body))

/-- the model's measurement join of the same two measurements; `none` = `InvalidWorkspaceOperation` -/
def modelMeas (j : Join) (ml mr poil poir pl pr : String) (cl cr : P) : Option (List (String × String × List (String × P))) :=
  match joinMeasurements j [⟨ml, ⟨poil, [⟨pl, cl⟩]⟩⟩] [⟨mr, ⟨poir, [⟨pr, cr⟩]⟩⟩] with
  | .ok l => some (renderMeas l)
  | .error _ => none

theorem gen_join_meas_none (ml mr poil poir pl pr : String) (cl cr : P) :
    Gen.join_meas_none ml mr poil poir pl pr cl cr = modelMeas .none ml mr poil poir pl pr cl cr := by
  simp only [modelMeas, joinMeasurements, joinItems_none]
  repeat' (apply ite_of_cases (· = _) <;> intro _)
  all_goals simp [*, commonNames_cons, commonNames_nil, names_cons, names_nil, renderMeas]

theorem gen_join_meas_leftOuter (ml mr poil poir pl pr : String) (cl cr : P) :
    Gen.join_meas_leftOuter ml mr poil poir pl pr cl cr = modelMeas .leftOuter ml mr poil poir pl pr cl cr := by
  simp only [modelMeas, joinMeasurements, left_outer_prefers_left, names_cons, names_nil, contains_eq_any, List.any_cons, List.any_nil]
  repeat' (apply ite_of_cases (· = _) <;> intro _)
  all_goals simp [*, renderMeas]

theorem gen_join_meas_rightOuter (ml mr poil poir pl pr : String) (cl cr : P) :
    Gen.join_meas_rightOuter ml mr poil poir pl pr cl cr = modelMeas .rightOuter ml mr poil poir pl pr cl cr := by
  simp only [modelMeas, joinMeasurements, right_outer_prefers_right, names_cons, names_nil]
  repeat' (apply ite_of_cases (· = _) <;> intro _)
  all_goals simp [*, renderMeas]

/-- **outer join of measurements**: an identical measurement appears once; the same name with the same POI merges the parameter
configurations (identical ones once, a common name with different settings refused); the same name with another POI is refused -/
theorem gen_join_meas_outer (ml mr poil poir pl pr : String) (cl cr : P) :
    Gen.join_meas_outer ml mr poil poir pl pr cl cr = modelMeas .outer ml mr poil poir pl pr cl cr := by
  unfold Gen.join_meas_outer modelMeas joinMeasurements
  -- the model asks some of its tests the other way round (`mr == ml`, `poir == poil`): an equality is substituted, an inequality is
  -- given to `simp` in both orientations
  by_cases h : ml = mr
  · subst h
    by_cases hp : poil = poir
    · subst hp
      by_cases hn : pl = pr
      · subst hn
        by_cases hc : cl = cr
        · subst hc
          simp [names, joinItems_outer, renderMeas, List.eraseDups, List.eraseDupsBy, List.eraseDupsBy.loop, List.mapM_cons, List.mapM_nil,
            pure, Except.pure, bind, Except.bind]
        · simp [names, joinItems_outer, hasDupName, List.eraseDups, List.eraseDupsBy, List.eraseDupsBy.loop, List.mapM_cons, bind, Except.bind,
            hc, Ne.symm hc]
      · simp [names, joinItems_outer, renderMeas, hasDupName, List.eraseDups, List.eraseDupsBy, List.eraseDupsBy.loop, List.mapM_cons,
          List.mapM_nil, pure, Except.pure, bind, Except.bind, hn, Ne.symm hn]
    · have hb : (poir == poil) = false := by simpa using Ne.symm hp
      simp [names, joinItems_outer, List.eraseDups, List.eraseDupsBy, List.eraseDupsBy.loop, hp, Ne.symm hp, hb]
  · have hb : (mr == ml) = false := by simpa using Ne.symm h
    simp [names, joinItems_outer, renderMeas, List.eraseDups, List.eraseDupsBy, List.eraseDupsBy.loop, List.mapM_cons, List.mapM_nil, pure,
      Except.pure, bind, Except.bind, h, Ne.symm h, hb]

end meas

end Pyhf.Props.C16
