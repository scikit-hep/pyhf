import PyhfProofs.Lemmas.Events
import Mathlib.Data.List.Basic
/-!
# C11 — results are independent of the history of backend switches
Invariant over all operation histories of the subscription state machine.
-/
namespace Pyhf.Props.C11
open Pyhf.Events

/-! ### the invariant -/

/-- Ids are positions in `objs`, so a registry in subscription (= creation) order is strictly increasing, and an object's
parts, created before it (`d < i`), are called before it on a switch: that is why one pass of `fire` refreshes everything
(`fold_refresh`).  `fresh`: the caches of every live object, and those it took from its parts, are for the current backend. -/
structure Inv (s : St) : Prop where
  reg_lt : ∀ i ∈ s.reg, i < s.objs.length
  reg_sorted : s.reg.Pairwise (· < ·)
  alive_reg : ∀ i, (s.obj i).alive = true → i ∈ s.reg
  deps_ok : ∀ i, (s.obj i).alive = true → ∀ d ∈ (s.obj i).deps, d < i ∧ (s.obj d).alive = true
  fresh : ∀ i, (s.obj i).alive = true → (s.obj i).tag = s.cur ∧ (s.obj i).depTags = (s.obj i).deps.map (fun _ => s.cur)

/-- everything but freshness (what survives storing a new current backend) -/
structure Shape (s : St) : Prop where
  reg_lt : ∀ i ∈ s.reg, i < s.objs.length
  reg_sorted : s.reg.Pairwise (· < ·)
  alive_reg : ∀ i, (s.obj i).alive = true → i ∈ s.reg
  deps_ok : ∀ i, (s.obj i).alive = true → ∀ d ∈ (s.obj i).deps, d < i ∧ (s.obj d).alive = true

/-- running the callbacks of `rest` after those of `done` (registry = `done ++ rest`) refreshes every live object -/
theorem fold_refresh (reg : List Nat) (hs : reg.Pairwise (· < ·)) :
    ∀ (rest done : List Nat) (s : St), done ++ rest = reg → s.reg = reg → Shape s →
      (∀ i ∈ done, (s.obj i).alive = true → (s.obj i).tag = s.cur ∧ (s.obj i).depTags = (s.obj i).deps.map (fun _ => s.cur)) →
      let s' := rest.foldl precompute s
      s'.cur = s.cur ∧ s'.reg = reg ∧ Shape s' ∧ (∀ j, (s'.obj j).alive = (s.obj j).alive) ∧
      (∀ i ∈ reg, (s'.obj i).alive = true → (s'.obj i).tag = s'.cur ∧ (s'.obj i).depTags = (s'.obj i).deps.map (fun _ => s'.cur)) := by
  intro rest
  induction rest with
  | nil =>
    intro done s hd hr hsh hdone
    simp only [List.append_nil] at hd
    subst hd
    exact ⟨rfl, hr, hsh, fun _ => rfl, hdone⟩
  | cons r rest ih =>
    intro done s hd hr hsh hdone
    simp only [List.foldl_cons]
    -- a callback rewrites cache tags only: registry, length, liveness and parts are those of `s`
    have hsh' : Shape (precompute s r) :=
      ⟨by simpa only [precompute_reg, precompute_len] using hsh.reg_lt, by simpa only [precompute_reg] using hsh.reg_sorted,
        by simpa only [precompute_alive, precompute_reg] using hsh.alive_reg,
        by simpa only [precompute_alive, precompute_deps] using hsh.deps_ok⟩
    have hdone' : ∀ i ∈ done ++ [r], ((precompute s r).obj i).alive = true →
        ((precompute s r).obj i).tag = (precompute s r).cur ∧
        ((precompute s r).obj i).depTags = ((precompute s r).obj i).deps.map (fun _ => (precompute s r).cur) := by
      intro i hi hal
      rw [precompute_alive] at hal
      rw [precompute_cur, precompute_deps]
      rcases List.mem_append.mp hi with hid | hid
      · -- an earlier object: untouched unless it is `r` itself (impossible: the registry is strictly increasing)
        have hne : i ≠ r := by
          rw [← hd] at hs
          have := (List.pairwise_append.mp hs).2.2 i hid r (by simp)
          omega
        rw [precompute_obj, if_neg fun h => hne h.1]
        exact hdone i hid hal
      · have : i = r := by simpa using hid
        subst this
        rw [precompute_obj, if_pos ⟨rfl, hal⟩]
        refine ⟨rfl, ?_⟩
        apply List.map_congr_left
        intro d hdm
        obtain ⟨hlt, hda⟩ := hsh.deps_ok i hal d hdm
        have hdreg : d ∈ reg := hr ▸ hsh.alive_reg d hda
        rw [← hd] at hdreg hs
        have hddone : d ∈ done := by
          rcases List.mem_append.mp hdreg with h | h
          · exact h
          · exfalso
            rcases List.mem_cons.mp h with h | h
            · omega
            · have := (List.pairwise_cons.mp (List.pairwise_append.mp hs).2.1).1 d h
              omega
        exact (hdone d hddone hda).1
    have := ih (done ++ [r]) (precompute s r) (by simp [hd]) (by rw [precompute_reg]; exact hr) hsh' hdone'
    obtain ⟨c1, c2, c3, c4, c5⟩ := this
    refine ⟨by rw [c1, precompute_cur], c2, c3, ?_, c5⟩
    intro j; rw [c4, precompute_alive]

/-- **after a backend switch every live object is fresh** -/
theorem fire_inv (s : St) (hsh : Shape s) : Inv (fire s) := by
  have h := fold_refresh s.reg hsh.reg_sorted s.reg [] s (by simp) rfl hsh (by simp)
  obtain ⟨c1, c2, c3, c4, c5⟩ := h
  refine ⟨?_, ?_, ?_, ?_, ?_⟩
  · intro i hi; exact c3.reg_lt i (List.mem_of_mem_filter hi)
  · exact c3.reg_sorted.sublist List.filter_sublist
  · intro i hi
    exact List.mem_filter.mpr ⟨c3.alive_reg i hi, hi⟩
  · exact c3.deps_ok
  · intro i hi
    exact c5 i (c2 ▸ c3.alive_reg i hi) hi

/-! ### every operation preserves the invariant -/

/-- admissible operations: parts of a new object exist and are alive; only objects nobody alive owns are deleted -/
def OpOK (s : St) : Op → Prop
  | .setBackend _ => True
  | .create deps => ∀ d ∈ deps, (s.obj d).alive = true
  | .delete id => ∀ j, (s.obj j).alive = true → id ∉ (s.obj j).deps

theorem inv_shape (s : St) (h : Inv s) : Shape s := ⟨h.reg_lt, h.reg_sorted, h.alive_reg, h.deps_ok⟩

theorem inv_init : Inv init := by
  refine ⟨by simp [init], by simp [init], ?_, ?_, ?_⟩ <;> intro i hi <;> simp [init, St.obj, dead] at hi

theorem inv_step (s : St) (op : Op) (h : Inv s) (hok : OpOK s op) : Inv (step s op) := by
  cases op with
  | setBackend t =>
    simp only [step]
    split
    · exact h
    · exact fire_inv _ ⟨h.reg_lt, h.reg_sorted, h.alive_reg, h.deps_ok⟩
  | create deps =>
    -- an object alive after the step is an old one, unchanged, or the new one
    have hnew : ∀ i, ((step s (.create deps)).obj i).alive = true →
        (i < s.objs.length ∧ (step s (.create deps)).obj i = s.obj i) ∨
        (i = s.objs.length ∧ (step s (.create deps)).obj i = ⟨true, deps, s.cur, deps.map fun d => (s.obj d).tag⟩) := by
      intro i hi
      rw [step_create_obj] at hi ⊢
      split_ifs at hi ⊢ with h1 h2
      · exact Or.inl ⟨h1, rfl⟩
      · exact Or.inr ⟨h2, rfl⟩
      · cases hi
    have hold : ∀ d, (s.obj d).alive = true → (step s (.create deps)).obj d = s.obj d := fun d hd => by
      rw [step_create_obj, if_pos (obj_alive_lt s d hd)]
    refine ⟨?_, ?_, ?_, ?_, ?_⟩
    · intro i hi
      simp only [step, List.mem_append, List.mem_singleton, List.length_append, List.length_singleton] at hi ⊢
      rcases hi with hi | hi
      · have := h.reg_lt i hi; omega
      · omega
    · simp only [step, List.pairwise_append, List.pairwise_singleton, List.mem_singleton, true_and]
      exact ⟨h.reg_sorted, fun a ha b hb => hb ▸ h.reg_lt a ha⟩
    · intro i hi
      rcases hnew i hi with ⟨-, e⟩ | ⟨rfl, -⟩
      · rw [e] at hi; exact List.mem_append_left _ (h.alive_reg i hi)
      · exact List.mem_append_right _ (List.mem_singleton_self _)
    · intro i hi d hdm
      rcases hnew i hi with ⟨-, e⟩ | ⟨rfl, e⟩
      · rw [e] at hi hdm
        obtain ⟨h1, h2⟩ := h.deps_ok i hi d hdm
        exact ⟨h1, by rw [hold d h2]; exact h2⟩
      · rw [e] at hdm
        have hda := hok d hdm
        exact ⟨obj_alive_lt s d hda, by rw [hold d hda]; exact hda⟩
    · intro i hi
      rcases hnew i hi with ⟨-, e⟩ | ⟨rfl, e⟩
      · rw [e] at hi ⊢; exact h.fresh i hi
      · rw [e]; exact ⟨rfl, List.map_congr_left fun d hdm => (h.fresh d (hok d hdm)).1⟩
  | delete id =>
    -- an object alive after the step is not `id` and is unchanged
    have hkept : ∀ i, ((step s (.delete id)).obj i).alive = true → (step s (.delete id)).obj i = s.obj i := by
      intro i hi
      rw [step_delete_obj] at hi ⊢
      by_cases hid : i = id
      · rw [if_pos hid] at hi; cases hi
      · rw [if_neg hid]
    refine ⟨fun i hi => ?_, h.reg_sorted, fun i hi => ?_, fun i hi d hdm => ?_, fun i hi => ?_⟩
    · simp only [step, List.length_set]; exact h.reg_lt i hi
    · have e := hkept i hi
      rw [e] at hi; exact h.alive_reg i hi
    · have e := hkept i hi
      rw [e] at hi hdm
      obtain ⟨h1, h2⟩ := h.deps_ok i hi d hdm
      have hdne : d ≠ id := fun hd => hok i hi (hd ▸ hdm)
      exact ⟨h1, by rw [step_delete_obj, if_neg hdne]; exact h2⟩
    · have e := hkept i hi
      rw [e] at hi ⊢; exact h.fresh i hi

def HistOK : St → List Op → Prop
  | _, [] => True
  | s, op :: ops => OpOK s op ∧ HistOK (step s op) ops

/-- **the invariant holds in every reachable state** -/
theorem inv_reachable (ops : List Op) (s : St) (h : Inv s) (hok : HistOK s ops) : Inv (run s ops) := by
  induction ops generalizing s with
  | nil => exact h
  | cons op ops ih =>
    exact ih (step s op) (inv_step s op h hok.1) hok.2

/-- **history independence**: after any history of switches, creations and deletions, evaluating any live object
observes exactly what a freshly created object with the same parts observes under the now-current backend -/
theorem eval_eq_fresh (ops : List Op) (hok : HistOK init ops) (i : Nat) (hal : ((run init ops).obj i).alive = true) :
    eval (run init ops) i = fresh (run init ops) i := by
  have h := inv_reachable ops init inv_init hok
  obtain ⟨h1, h2⟩ := h.fresh i hal
  simp [eval, fresh, h1, h2]

/-- switching to the backend that is already current fires no event and changes nothing -/
theorem no_event_without_change (s : St) : step s (.setBackend s.cur) = s := by simp [step]

/-- dead objects are never called: a callback on a dead object leaves the state untouched -/
theorem dead_never_called (s : St) (i : Nat) (h : (s.obj i).alive = false) : precompute s i = s := by
  unfold precompute; simp [h]

/-- after a switch no dead reference is left in the registry -/
theorem flush_after_switch (s : St) (t : Nat) (ht : t ≠ s.cur) :
    ∀ i ∈ (step s (.setBackend t)).reg, ((step s (.setBackend t)).obj i).alive = true := by
  intro i hi
  simp only [step, ht, if_false, fire] at hi ⊢
  exact (List.mem_filter.mp hi).2

end Pyhf.Props.C11
