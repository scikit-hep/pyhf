import PyhfGen.Interp
import PyhfProofs.Properties.C03
import PyhfProofs.Lemmas.GenNorm
/-!
# C03 (continued) — the theorems hold of what the code computes *now*

`PyhfGen/Interp.lean` is regenerated on every run from `/repo/src/pyhf/interpolators/code*.py` by symbolic execution of the running
code: `Gen.slow_codeK` from the scalar reference classes `_slow_codeK`, `Gen.fast_codeK` from one cell of the vectorised classes
`codeK` (constructor, `_precompute`, `__call__`) through a symbolic tensor backend.  The theorems below prove each generated function
equal, for all real inputs, to the hand-written model function the C03 theorems are stated about; so the anchors, continuity,
differentiability and extrapolation theorems are theorems about the current source.  A change to the source that alters the computed
function breaks one of these equalities (the failing-input search of the C03 harness then looks for a concrete cell).
-/
namespace Pyhf.Props.C03
open Pyhf.Interp

theorem gen_slow_code0_eq (dn nom up a : ℝ) : Gen.slow_code0 realPrim dn nom up a = slow0 dn nom up a := by
  unfold Gen.slow_code0
  by_cases h : 0 < a <;> simp only [gen_norm, h]

theorem gen_slow_code1_eq (dn nom up a : ℝ) : Gen.slow_code1 realPrim dn nom up a = slow1 realPrim dn nom up a := by
  unfold Gen.slow_code1
  by_cases h : 0 < a <;> simp only [gen_norm, h]

theorem gen_slow_code2_eq (dn nom up a : ℝ) : Gen.slow_code2 realPrim dn nom up a = slow2 dn nom up a := by
  unfold Gen.slow_code2
  rcases code2_regimes a with h | h | h <;> simp only [gen_norm, h]

theorem gen_slow_code4p_eq (dn nom up a : ℝ) : Gen.slow_code4p realPrim dn nom up a = slow4p dn nom up a := by
  unfold Gen.slow_code4p
  rcases code4p_regimes a with h | h | h <;> simp only [gen_norm, h]

theorem gen_slow_code4_eq (a0 dn nom up a : ℝ) (h0 : 0 < a0) :
    Gen.slow_code4 realPrim a0 dn nom up a = slow4 realPrim a0 dn nom up a := by
  unfold Gen.slow_code4 slow4
  rcases code4_regimes h0 a with h | h | h <;> simp only [gen_norm, h]
  simp only [poly6_real, code4Coeffs, code4Rhs, ipow_eq, gen_norm]
  ring1

theorem gen_fast_code0_eq (dn nom up a : ℝ) : Gen.fast_code0 realPrim dn nom up a = slow0 dn nom up a := by
  unfold Gen.fast_code0
  by_cases h : 0 < a <;> simp only [gen_norm, h] <;> ring1

theorem gen_fast_code1_eq (dn nom up a : ℝ) : Gen.fast_code1 realPrim dn nom up a = slow1 realPrim dn nom up a := by
  unfold Gen.fast_code1
  by_cases h : 0 < a <;> simp only [gen_norm, h]

theorem gen_fast_code2_eq (dn nom up a : ℝ) : Gen.fast_code2 realPrim dn nom up a = slow2 dn nom up a := by
  unfold Gen.fast_code2
  rcases code2_regimes a with h | h | h <;> simp only [gen_norm, h] <;> ring1

theorem gen_fast_code4p_eq (dn nom up a : ℝ) : Gen.fast_code4p realPrim dn nom up a = slow4p dn nom up a := by
  unfold Gen.fast_code4p
  rcases code4p_regimes a with h | h | h <;> simp only [gen_norm, h] <;> ring1

theorem gen_fast_code4_eq (a0 dn nom up a : ℝ) (h0 : 0 < a0) :
    Gen.fast_code4 realPrim a0 dn nom up a = slow4 realPrim a0 dn nom up a := by
  unfold Gen.fast_code4 slow4
  rcases code4_regimes h0 a with h | h | h <;> simp only [gen_norm, h]
  simp only [poly6_real, code4Coeffs, code4Rhs, ipow_eq, gen_norm]
  ring1

/-- the vectorised code computes the scalar reference's function, for every code and every real input -/
theorem gen_fast_eq_gen_slow (dn nom up a : ℝ) :
    Gen.fast_code0 realPrim dn nom up a = Gen.slow_code0 realPrim dn nom up a ∧
    Gen.fast_code1 realPrim dn nom up a = Gen.slow_code1 realPrim dn nom up a ∧
    Gen.fast_code2 realPrim dn nom up a = Gen.slow_code2 realPrim dn nom up a ∧
    Gen.fast_code4p realPrim dn nom up a = Gen.slow_code4p realPrim dn nom up a ∧
    ∀ a0, 0 < a0 → Gen.fast_code4 realPrim a0 dn nom up a = Gen.slow_code4 realPrim a0 dn nom up a := by
  refine ⟨?_, ?_, ?_, ?_, ?_⟩
  · rw [gen_fast_code0_eq, gen_slow_code0_eq]
  · rw [gen_fast_code1_eq, gen_slow_code1_eq]
  · rw [gen_fast_code2_eq, gen_slow_code2_eq]
  · rw [gen_fast_code4p_eq, gen_slow_code4p_eq]
  · intro a0 h0; rw [gen_fast_code4_eq _ _ _ _ _ h0, gen_slow_code4_eq _ _ _ _ _ h0]

/-- the function the vectorised `code4p` computes now is continuous in alpha, hits the variations at ±1 and vanishes at 0 -/
theorem gen_code4p_anchors_and_continuity (dn nom up : ℝ) :
    (Continuous fun a => Gen.fast_code4p realPrim dn nom up a) ∧ Gen.fast_code4p realPrim dn nom up 0 = 0 ∧
    Gen.fast_code4p realPrim dn nom up 1 = up - nom ∧ Gen.fast_code4p realPrim dn nom up (-1) = dn - nom := by
  simp only [gen_fast_code4p_eq]
  exact ⟨code4p_continuous dn nom up, code4p_neutral dn nom up, code4p_at_plus_one dn nom up, code4p_at_minus_one dn nom up⟩

/-- the function the vectorised `code4` computes now is continuous in alpha for every `alpha0 > 0` and positive variations -/
theorem gen_code4_continuous (a0 dn nom up : ℝ) (h0 : 0 < a0) (hd : 0 < dn) (hn : 0 < nom) (hu : 0 < up) :
    Continuous fun a => Gen.fast_code4 realPrim a0 dn nom up a := by
  simp only [gen_fast_code4_eq _ _ _ _ _ h0]
  exact code4_continuous a0 dn nom up h0 hd hn hu

/-- the function the vectorised `code2` computes now is continuous (the jump at α = ±1 of `slow2_prefix`, `C03.code2_prefix_discontinuous_at_one`, would break this proof) -/
theorem gen_code2_continuous (dn nom up : ℝ) : Continuous fun a => Gen.fast_code2 realPrim dn nom up a := by
  simp only [gen_fast_code2_eq]
  exact code2_continuous dn nom up

end Pyhf.Props.C03
