import PyhfProofs.Lemmas.CliGlue
/-!
# C19 — the command line returns what the library returns

Model: `PyhfModel/Cli.lean` — options → library call (`dispatch`), repeated options as Python dictionaries, the
`key=value` parser, backend aliases, digest output, exit status and sink.  The library calls themselves are abstract
(`exec`); the differential run decides that the real CLI makes the call `dispatch` names and emits its result.
-/
namespace Pyhf.Props.C19
open Pyhf.Cli

/-! ### repeated options behave like a Python dictionary -/

/-- **the last occurrence of a repeated key wins** (`--optconf maxiter=1 --optconf maxiter=2`, `-c A X -c A Y`) -/
theorem dictFrom_last_wins {β : Type} (ps : List (String × β)) (k : String) (v : β) :
    dictGet (dictFrom (ps ++ [(k, v)])) k = some v := by
  unfold dictFrom
  simp [dictIns_get]

/-- a later occurrence of another key leaves the value of this key as it is -/
theorem dictFrom_other_kept {β : Type} (ps : List (String × β)) (k k' : String) (v : β) (h : k' ≠ k) :
    dictGet (dictFrom (ps ++ [(k, v)])) k' = dictGet (dictFrom ps) k' := by
  unfold dictFrom
  simp [dictIns_get, h]

theorem dictFrom_keys_nodup {β : Type} (ps : List (String × β)) : ((dictFrom ps).map (·.1)).Nodup := by
  suffices h : ∀ (d : List (String × β)), (d.map (·.1)).Nodup → ((ps.foldl (fun d e => dictIns d e.1 e.2) d).map (·.1)).Nodup from h [] (by simp)
  induction ps with
  | nil => intro d h; exact h
  | cons p ps ih => intro d h; exact ih _ (dictIns_nodup d p.1 p.2 h)

/-! ### `patchset extract --with-metadata` -/

/-- a key that only the patch's own metadata has (`name`, `values`, extra annotations) is emitted unchanged -/
theorem extract_metadata_patch_level_kept {β : Type} (pm sm : List (String × β)) (k : String)
    (hk : ∀ x ∈ sm, x.1 ≠ k) : dictGet (extractMetadata pm sm) k = dictGet pm k := by
  unfold extractMetadata dictUpdate
  induction sm generalizing pm with
  | nil => rfl
  | cons e es ih =>
    simp only [List.foldl_cons]
    rw [ih _ (fun x hx => hk x (by simp [hx])), dictIns_get]
    simp [Ne.symm (hk e (by simp))]

/-- a key of the patch set's metadata is emitted with the patch set's value, whatever the patch's own metadata says -/
theorem extract_metadata_set_level_wins {β : Type} (pm sm : List (String × β)) (k : String) (v : β)
    (hk : dictGet sm k = some v) (hnd : (sm.map (·.1)).Nodup) : dictGet (extractMetadata pm sm) k = some v := by
  -- split the set's metadata at its entry for `k`: that entry is inserted with `v`, and no entry after it has the key `k`
  obtain ⟨e, hf, rfl⟩ := Option.map_eq_some_iff.1 hk
  obtain ⟨he, l1, l2, rfl, -⟩ := List.find?_eq_some_iff_append.1 hf
  have hnd2 : (e.1 :: l2.map (·.1)).Nodup := List.Nodup.of_append_right (l₁ := l1.map (·.1)) (by simpa using hnd)
  have hne : ∀ x ∈ l2, x.1 ≠ k := fun x hx hxk =>
    (List.nodup_cons.1 hnd2).1 (List.mem_map.2 ⟨x, hx, hxk.trans (eq_of_beq he).symm⟩)
  unfold extractMetadata dictUpdate
  rw [List.foldl_append, List.foldl_cons]
  exact (extract_metadata_patch_level_kept _ l2 k hne).trans (by rw [dictIns_get, if_pos (eq_of_beq he).symm])

/-! ### backend aliases -/

theorem backend_aliases :
    backendCall "np" = backendCall "numpy" ∧ backendCall "torch" = backendCall "pytorch" ∧ backendCall "tf" = backendCall "tensorflow" ∧
    backendCall "numpy" = none ∧ backendCall "pytorch" = some ("pytorch", some "64b") ∧
    backendCall "tensorflow" = some ("tensorflow", some "64b") ∧ backendCall "jax" = some ("jax", none) := by decide +kernel

theorem backend_total : ∀ b ∈ backendChoices, backendName b ∈ ["numpy", "pytorch", "tensorflow", "jax"] := by decide +kernel

/-! ### every option reaches the library call -/

/-- two `fit` invocations that lead to the same library call agree on every option (backend and optimiser settings
up to aliases and repetition) -/
theorem fit_options_take_effect (o o' : InferOpts) (v v' : Bool)
    (h : dispatch (.fit o v) = dispatch (.fit o' v')) (hu : dispatch (.fit o v) ≠ .usageError) :
    o.measurement = o'.measurement ∧ o.patches = o'.patches ∧ v = v' ∧ backendName o.backend = backendName o'.backend ∧
    o.optimizer = o'.optimizer ∧ confOf o.optconf = confOf o'.optconf := by
  obtain ⟨c, hc, e⟩ := inferCall_of_ne_usageError hu
  obtain ⟨c', hc', e'⟩ := inferCall_of_ne_usageError (h ▸ hu)
  obtain ⟨h1, h2, h3, h4, _, h6, h7⟩ := LibCall.fit.inj (e.symm.trans (h.trans e'))
  exact ⟨h1, h2, h3, h4, h6, by rw [hc, hc', h7]⟩

theorem cls_options_take_effect (o o' : InferOpts) (p p' t t' c c' : String)
    (h : dispatch (.cls o p t c) = dispatch (.cls o' p' t' c')) (hu : dispatch (.cls o p t c) ≠ .usageError) :
    o.measurement = o'.measurement ∧ o.patches = o'.patches ∧ p = p' ∧ t = t' ∧ c = c' ∧
    backendName o.backend = backendName o'.backend ∧ o.optimizer = o'.optimizer ∧ confOf o.optconf = confOf o'.optconf := by
  have hu' : dispatch (.cls o' p' t' c') ≠ .usageError := h ▸ hu
  have ha : clsOK t c = true := by by_contra ha; exact hu (if_neg ha)
  have ha' : clsOK t' c' = true := by by_contra ha'; exact hu' (if_neg ha')
  simp only [dispatch, ha, ha', if_true] at h hu hu'
  obtain ⟨cf, hc, e⟩ := inferCall_of_ne_usageError hu
  obtain ⟨cf', hc', e'⟩ := inferCall_of_ne_usageError hu'
  obtain ⟨h1, h2, h3, h4, h5, h6, _, h8, h9, _⟩ := LibCall.hypotest.inj (e.symm.trans (h.trans e'))
  exact ⟨h1, h2, h3, h4, h5, h6, h8, by rw [hc, hc', h9]⟩

/-- `cls` always builds its model with the interpolation codes 4 / 4p -/
theorem cls_fixed_settings (o : InferOpts) (p t c : String) :
    dispatch (.cls o p t c) = .usageError ∨ ∃ m ps b pr op conf, dispatch (.cls o p t c) = .hypotest m ps p t c b pr op conf "code4" "code4p" := by
  by_cases hu : dispatch (.cls o p t c) = .usageError
  · exact .inl hu
  · have ha : clsOK t c = true := by by_contra ha; exact hu (if_neg ha)
    simp only [dispatch, ha, if_true] at hu ⊢
    obtain ⟨cf, -, e⟩ := inferCall_of_ne_usageError hu
    exact .inr ⟨_, _, _, _, _, cf, e⟩

theorem structural_options_take_effect :
    (∀ c s m t ms c' s' m' t' ms', dispatch (.prune c s m t ms) = dispatch (.prune c' s' m' t' ms') → c = c' ∧ s = s' ∧ m = m' ∧ t = t' ∧ ms = ms') ∧
    (∀ n n' w w', dispatch (.psExtract n w) = dispatch (.psExtract n' w') → n = n') ∧
    (∀ n n', dispatch (.psApply n) = dispatch (.psApply n') → n = n') ∧
    (∀ a b a' b', dispatch (.xml2json a b) = dispatch (.xml2json a' b') → a = a' ∧ b = b') ∧
    (∀ a b c d a' b' c' d', dispatch (.json2xml a b c d) = dispatch (.json2xml a' b' c' d') → a = a' ∧ b = b' ∧ c = c' ∧ d = d') ∧
    (∀ m m', dispatch (.inspect m) = dispatch (.inspect m') → m = m') := by
  refine ⟨?_, ?_, ?_, ?_, ?_, ?_⟩ <;> intros <;> simp_all [dispatch]

theorem combine_options_take_effect (j j' : String) (g g' : Bool) (h : dispatch (.combine j g) = dispatch (.combine j' g'))
    (hu : dispatch (.combine j g) ≠ .usageError) : j = j' ∧ g = g' := by
  simp only [dispatch] at h hu
  cases hj : joinOK j <;> cases hj' : joinOK j' <;>
    simp only [hj, hj', if_true, Bool.false_eq_true, if_false, ne_eq, not_true_eq_false, LibCall.combine.injEq, reduceCtorEq] at h hu ⊢
  exact h

/-- renamings are handed over as dictionaries: for a repeated pattern the last replacement is the one that reaches `rename` -/
theorem rename_last_wins (c : List (String × String)) (k v : String) (s m ms : List (String × String)) :
    ∃ d, dispatch (.rename (c ++ [(k, v)]) s m ms) = .rename d (dictFrom s) (dictFrom m) (dictFrom ms) ∧ dictGet d k = some v :=
  ⟨_, rfl, dictFrom_last_wins c k v⟩

/-! ### exit status and sink -/

/-- the exit status is 2 exactly for a usage error, 1 exactly when the library call raises, 0 otherwise -/
theorem exit_status (a : Args) (sink : Sink) (exec : LibCall → Option String) :
    ((run a sink exec).exit = 2 ↔ dispatch a = .usageError) ∧
    ((run a sink exec).exit = 0 ↔ dispatch a ≠ .usageError ∧ (exec (dispatch a)).isSome) ∧
    ((run a sink exec).exit = 1 ↔ dispatch a ≠ .usageError ∧ exec (dispatch a) = none) := by
  by_cases hd : dispatch a = .usageError
  · simp [run_of_usageError sink exec hd, hd]
  · rw [run_of_ne_usageError sink exec hd]
    cases exec (dispatch a) <;> cases sink <;> simp [hd]

/-- **file and standard output receive the same text** (standard output adds the newline of `echo`) -/
theorem sink_independent (a : Args) (exec : LibCall → Option String) (text : String)
    (h : (run a .file exec).file = some text) :
    (run a .stdout exec).stdout = text ++ "\n" ∧ (run a .stdout exec).exit = (run a .file exec).exit := by
  by_cases hd : dispatch a = .usageError
  · rw [run_of_usageError _ exec hd] at h; cases h
  · simp only [run_of_ne_usageError _ exec hd] at h ⊢
    cases he : exec (dispatch a) <;> simp_all

/-! ### digest -/

theorem digestAlgs_nodup (algs : List String) : (digestAlgs algs).Nodup := by
  unfold digestAlgs; exact dictFrom_keys_nodup _

/-- repeating an algorithm changes nothing in what is printed -/
theorem digest_repeat_irrelevant (algs : List String) (a : String) (hash : String → String) (h : a ∈ algs) :
    digestOutput (algs ++ [a]) hash = digestOutput algs hash := by
  -- `a` is a key already when its second mention is inserted
  have hany : (dictFrom (algs.map fun a => (a, ()))).any (·.1 == a) = true :=
    (dictUpdate_any [] _ a).trans (by simpa using h)
  unfold digestOutput digestAlgs
  rw [show dictFrom ((algs ++ [a]).map fun a => (a, ())) = dictIns (dictFrom (algs.map fun a => (a, ()))) a () by
    simp [dictFrom, List.foldl_append], dictIns_unit_idem _ _ hany]

/-! ### the `key=value` parser of `--optconf` -/

/-- **`key=value` is split at the first `=`**: the key is everything before it, the value everything after (further
`=` signs belong to the value) -/
theorem splitEq_first (k v : String) (h : '=' ∉ k.toList) : splitEq (k ++ "=" ++ v) = some (k, v) := by
  unfold splitEq
  have hl : (k ++ "=" ++ v).toList = k.toList ++ '=' :: v.toList := by
    rw [String.toList_append, String.toList_append]; simp
  obtain ⟨h1, h2⟩ := split_lists k.toList v.toList h
  simp only [hl, h1, h2]
  simp [String.ofList_toList]

/-- a string without `=` is not an option setting (click reports a usage error) -/
theorem splitEq_none (s : String) (h : '=' ∉ s.toList) : splitEq s = none := by
  unfold splitEq
  have : s.toList.contains '=' = false := by simpa using h
  simp only [this, Bool.false_eq_true, if_false]

theorem malformed_optconf_is_usage_error (o : InferOpts) (v : Bool) (s : String) (hs : s ∈ o.optconf) (h : '=' ∉ s.toList) :
    dispatch (.fit o v) = .usageError := by
  have hc : confOf o.optconf = none := by
    -- whatever stands before `s` parses or not, the whole list does not
    obtain ⟨l1, l2, e⟩ := List.append_of_mem hs
    unfold confOf
    rw [e, List.mapM_append, List.mapM_cons, splitEq_none s h]
    cases l1.mapM splitEq <;> rfl
  simp only [dispatch, inferCall, hc]
  cases inferOK o <;> simp

/-! ### the premises are satisfiable -/

def demoOpts : InferOpts :=
  { measurement := some "tight"
    patches := ["pa.json"]
    backend := "torch"
    optimizer := "minuit"
    optconf := ["maxiter=1000", "tolerance=0.01", "maxiter=3000"] }

example : dispatch (.fit demoOpts true) =
    .fit (some "tight") ["pa.json"] true "pytorch" (some "64b") "minuit" [("maxiter", "3000"), ("tolerance", "0.01")] := by decide +kernel

def badBackend : InferOpts := { backend := "cupy" }

example : dispatch (.cls badBackend "1.0" "qtilde" "asymptotics") = .usageError := by decide +kernel

example : digestOutput ["md5", "sha256", "md5"] (fun a => a ++ "-digest") = "md5:md5-digest\nsha256:sha256-digest" := by decide +kernel

end Pyhf.Props.C19
