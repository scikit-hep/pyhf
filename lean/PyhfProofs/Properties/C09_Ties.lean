import PyhfProofs.Properties.C09
/-!
# C09 (continued) — the fixed-scan limit on curves with ties (plateaus)

Scanned CLs curves need not be strictly decreasing: toy-based p-values live on a lattice `k / ntoys`, asymptotic ones underflow to
exactly 0 for large signal strengths.  `numpy.interp` is then handed an abscissa list with repeated values.  These theorems describe
what the model of `linear_grid_scan` (`gridLimit`, compared with the implementation on such lattice-valued curves on every run) returns
**for any number of scan points and whatever ties occur away from the crossing**: if the curve is above the level at `μ₀`, below it at
the next scan point `μ₁`, and below it at every later scan point, the limit is the chord crossing in `[μ₀, μ₁]` — no hypothesis on the
earlier part of the curve, none on ties among the later values.
-/
namespace Pyhf.Props.C09
open Pyhf.Infer

/-- `numpy.interp` skips every leading abscissa below `x` — ties among them included — and interpolates in the first cell that
contains `x` -/
theorem npInterp_crossing (x : ℝ) (xs fs : List ℝ) (hlen : xs.length = fs.length) (hall : ∀ v ∈ xs, v < x)
    (a b fa fb : ℝ) (xs' fs' : List ℝ) (ha : a < x) (hb : x < b) :
    npInterp x (xs ++ a :: b :: xs') (fs ++ fa :: fb :: fs') = fa + (x - a) * ((fb - fa) / (b - a)) := by
  induction xs generalizing fs with
  | nil =>
    obtain rfl : fs = [] := List.length_eq_zero_iff.mp hlen.symm
    exact npInterp_cell x a b fa fb xs' fs' ha hb
  | cons v vs ih =>
    obtain ⟨g, gs, rfl⟩ := List.exists_cons_of_length_eq_add_one hlen.symm
    rw [List.cons_append, List.cons_append, npInterp_cons_skip x v g _ _ (hall v (by simp)) ?_ (by simp)]
    · exact ih gs (by simpa using hlen) fun w hw => hall w (by simp [hw])
    · cases vs with
      | nil => simpa using ha.le
      | cons w ws => simpa using (hall w (by simp)).le

/-- **fixed scan, any number of points, ties allowed**: above the level at `μ₀`, below it at the next point `μ₁` and at every later
point ⇒ the limit is the chord crossing of that cell -/
theorem grid_limit_crossing_general (level : ℝ) (sPre cPre sPost cPost : List ℝ) (m0 m1 c0 c1 : ℝ)
    (hlen : sPost.length = cPost.length) (hpost : ∀ v ∈ cPost, v < level) (h1 : c1 < level) (h0 : level < c0) :
    gridLimit level (sPre ++ m0 :: m1 :: sPost) (cPre ++ c0 :: c1 :: cPost) = m1 + (level - c1) * ((m0 - m1) / (c0 - c1)) := by
  unfold gridLimit
  have e1 : (cPre ++ c0 :: c1 :: cPost).reverse = cPost.reverse ++ c1 :: c0 :: cPre.reverse := by simp
  have e2 : (sPre ++ m0 :: m1 :: sPost).reverse = sPost.reverse ++ m1 :: m0 :: sPre.reverse := by simp
  rw [e1, e2]
  exact npInterp_crossing level cPost.reverse sPost.reverse (by simp [hlen]) (fun v hv => hpost v (by simpa using hv)) c1 c0 m1 m0 _ _ h1 h0

/-- under the hypotheses of `grid_limit_crossing_general`, on an increasing scan the limit lies inside the cell `[μ₀, μ₁]` -/
theorem grid_limit_in_cell_general (level : ℝ) (sPre cPre sPost cPost : List ℝ) (m0 m1 c0 c1 : ℝ)
    (hlen : sPost.length = cPost.length) (hpost : ∀ v ∈ cPost, v < level) (h1 : c1 < level) (h0 : level < c0) (hm : m0 ≤ m1) :
    m0 ≤ gridLimit level (sPre ++ m0 :: m1 :: sPost) (cPre ++ c0 :: c1 :: cPost) ∧
    gridLimit level (sPre ++ m0 :: m1 :: sPost) (cPre ++ c0 :: c1 :: cPost) ≤ m1 := by
  rw [grid_limit_crossing_general level sPre cPre sPost cPost m0 m1 c0 c1 hlen hpost h1 h0]
  have := npInterp_cell_between level c1 c0 m1 m0 h1 h0
  rw [min_eq_right hm, max_eq_left hm] at this
  exact this

/-- non-vacuity: a lattice-valued curve with a plateau of zeros after the crossing and a tie before it -/
example : gridLimit (0.05 : ℝ) [0, 1, 2, 3, 4, 5] [1, 1, 0.5, 0, 0, 0] = 3 + (0.05 - 0) * ((2 - 3) / (0.5 - 0)) :=
  grid_limit_crossing_general 0.05 [0, 1] [1, 1] [4, 5] [0, 0] 2 3 0.5 0 rfl (by intro v hv; simp at hv; rcases hv with rfl | rfl; norm_num) (by norm_num) (by norm_num)

end Pyhf.Props.C09
