import Mathlib.Analysis.SpecialFunctions.Log.Basic
import Mathlib.Analysis.SpecialFunctions.Pow.Real
import PyhfProofs.Lemmas.KKT
import PyhfProofs.Lemmas.Quadratic
/-!
# C08 (continued) — the closed forms of the on/off counting model are the profile likelihood

C08 is stated for "counting-type models whose profile likelihood and Asimov dataset are known in closed form".  Besides the
signal-strength-only models the harness uses the **on/off model** (signal region `n ~ Pois(μ s + k b)`, control region
`m ~ Pois(k τ b)`, `k` a free normalisation).  This file proves that the formulas the harness evaluates (`harness/counting.py`:
`onoff_khat`, the free optimum) are what they are used as: the conditional fit, the free fit, and the free fit of the Asimov data.

The negative log-likelihood is used throughout in the form `λ − n log λ` per bin (the data-only constant dropped): half of
`counting.two_nll_1`, which leaves the optimisers unchanged.
-/
namespace Pyhf.Props.C08.OnOff

/-- one Poisson bin, `λ − n log λ` (half of `counting.two_nll_1`) -/
noncomputable def nll1 (n lam : ℝ) : ℝ := lam - n * Real.log lam

/-- the on/off model: signal region + control region -/
noncomputable def nll (n m s b τ μ k : ℝ) : ℝ := nll1 n (μ * s + k * b) + nll1 m (k * τ * b)

/-- the score equation in `k`, multiplied through by `k (μ s + k b) / b` -/
def score (n m s b τ μ k : ℝ) : ℝ := (1 + τ) * b ^ 2 * k ^ 2 + ((1 + τ) * b * μ * s - (n + m) * b) * k - m * μ * s

/-- `counting.onoff_khat`: the larger root of the score equation, `A = (1+τ) b²`, `B = (1+τ) b μ s − (n+m) b`, `C = −m μ s` -/
noncomputable def khat (n m s b τ μ : ℝ) : ℝ :=
  let A := (1 + τ) * b * b; let B := (1 + τ) * b * μ * s - (n + m) * b; let C := -m * μ * s
  (-B + Real.sqrt (B * B - 4 * A * C)) / (2 * A)

theorem khat_root (n m s b τ μ : ℝ) (hm : 0 ≤ m) (hs : 0 < s) (hb : 0 < b) (hτ : 0 < τ) (hμ : 0 ≤ μ) :
    score n m s b τ μ (khat n m s b τ μ) = 0 := by
  have hC : 0 ≤ m * μ * s := by positivity
  rw [← quadratic_root (a := (1 + τ) * b * b) (b := (1 + τ) * b * μ * s - (n + m) * b)
    (c := -m * μ * s) (by positivity) (by linarith), score, khat]
  ring

theorem khat_pos (n m s b τ μ : ℝ) (hm : 0 < m) (hs : 0 < s) (hb : 0 < b) (hτ : 0 < τ) (hμ : 0 < μ) :
    0 < khat n m s b τ μ := by
  have hC : 0 < m * μ * s := by positivity
  exact quadratic_root_pos (by positivity) (by linarith)

/-- the background-only conditional fit in closed form: `k̂(0) = (n + m) / ((1 + τ) b)` -/
theorem khat_zero (n m s b τ : ℝ) (hnm : 0 ≤ n + m) (hb : 0 < b) (hτ : 0 < τ) :
    khat n m s b τ 0 = (n + m) / ((1 + τ) * b) := by
  unfold khat
  simp only [mul_zero, zero_mul, sub_zero, zero_sub]
  have h1 : (-((n + m) * b)) * (-((n + m) * b)) = ((n + m) * b) * ((n + m) * b) := by ring
  have h0 : (0 : ℝ) ≤ (n + m) * b := by positivity
  rw [h1, Real.sqrt_mul_self h0]
  field_simp; ring

/-- **the conditional fit**: a positive root of the score equation (`khat_root`, `khat_pos`) maximises the likelihood over all positive
`k`, for every `μ ≥ 0` — no local-optimum caveat: the argument is the tangent inequality `log x ≤ x − 1` (`KKT.poisson_scalar`), as in
the KKT certificate of C05 -/
theorem conditional_optimal (n m s b τ μ k : ℝ) (hn : 0 ≤ n) (hm : 0 ≤ m) (hs : 0 < s) (hb : 0 < b) (hτ : 0 < τ) (hμ : 0 ≤ μ)
    (hk : 0 < k) (hroot : score n m s b τ μ k = 0) (k' : ℝ) (hk' : 0 < k') :
    nll n m s b τ μ k ≤ nll n m s b τ μ k' := by
  unfold nll nll1
  have hl1 : 0 < μ * s + k * b := by positivity
  have hl2 : 0 < k * τ * b := by positivity
  have hl1' : 0 < μ * s + k' * b := by positivity
  have hl2' : 0 < k' * τ * b := by positivity
  have t1 := Pyhf.KKT.poisson_scalar n (μ * s + k * b) (μ * s + k' * b) hn hl1 hl1'
  have t2 := Pyhf.KKT.poisson_scalar m (k * τ * b) (k' * τ * b) hm hl2 hl2'
  -- the two tangent slopes add up to the score, which vanishes
  have slope : (1 - n / (μ * s + k * b)) * ((μ * s + k' * b) - (μ * s + k * b)) + (1 - m / (k * τ * b)) * (k' * τ * b - k * τ * b) = 0 := by
    have : (1 - n / (μ * s + k * b)) * ((μ * s + k' * b) - (μ * s + k * b)) + (1 - m / (k * τ * b)) * (k' * τ * b - k * τ * b)
        = (k' - k) * (score n m s b τ μ k) / (k * (μ * s + k * b)) := by
      unfold score; field_simp; ring
    rw [this, hroot]; simp
  linarith

/-- **the free fit**: the point that reproduces both counts, `k = m / (τ b)`, `μ = (n − k b) / s`, maximises the likelihood over all
`(μ, k)` with positive rates -/
theorem free_optimal (n m s b τ μ' k' : ℝ) (hn : 0 < n) (hm : 0 < m) (hs : 0 < s) (hb : 0 < b) (hτ : 0 < τ)
    (h1 : 0 < μ' * s + k' * b) (h2 : 0 < k' * τ * b) :
    nll n m s b τ ((n - m / (τ * b) * b) / s) (m / (τ * b)) ≤ nll n m s b τ μ' k' := by
  unfold nll nll1
  have e1 : (n - m / (τ * b) * b) / s * s + m / (τ * b) * b = n := by field_simp; ring
  have e2 : m / (τ * b) * τ * b = m := by field_simp
  rw [e1, e2]
  have t1 := Pyhf.KKT.poisson_scalar n n (μ' * s + k' * b) hn.le hn h1
  have t2 := Pyhf.KKT.poisson_scalar m m (k' * τ * b) hm.le hm h2
  rw [div_self hn.ne'] at t1; rw [div_self hm.ne'] at t2
  linarith

/-- **the Asimov data** of the background-only conditional fit `k₀`, `n_A = k₀ b`, `m_A = k₀ τ b`: the point of `free_optimal` for these
counts is `μ = 0`, `k = k₀` — so `q_A` is the statistic of that data set against `μ̂ = 0` -/
theorem asimov_reproduces (s b τ k₀ : ℝ) (hs : 0 < s) (hb : 0 < b) (hτ : 0 < τ) (hk : 0 < k₀) :
    ((k₀ * b) - (k₀ * τ * b) / (τ * b) * b) / s = 0 ∧ (k₀ * τ * b) / (τ * b) = k₀ := by
  constructor
  · field_simp; ring
  · field_simp

/-- non-vacuity: a concrete on/off experiment (n = 52, m = 110, s = 8, b = 50, τ = 2, μ = 1) meets the hypotheses of
`conditional_optimal` through `khat_root` / `khat_pos` -/
example : score 52 110 8 50 2 1 (khat 52 110 8 50 2 1) = 0 ∧ 0 < khat 52 110 8 50 2 1 :=
  ⟨khat_root 52 110 8 50 2 1 (by norm_num) (by norm_num) (by norm_num) (by norm_num) (by norm_num),
   khat_pos 52 110 8 50 2 1 (by norm_num) (by norm_num) (by norm_num) (by norm_num) (by norm_num)⟩

end Pyhf.Props.C08.OnOff
