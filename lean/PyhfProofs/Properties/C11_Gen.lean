import PyhfGen.Events
import PyhfModel.Events
/-!
# C11 (continued) — subscription, dispatch and flush of `events.Callables` as written *now*

`PyhfGen/Events.lean` is regenerated on every C11 run: three objects subscribe a bound method, a plain function is subscribed in
between, and `Callables.__call__` is executed with the weak references to the three objects alive or dead as the decision oracle says
(all eight patterns).  Recorded: the callbacks invoked, in order, and the registry left after the flush.  Against the model
(`PyhfModel/Events.lean`): the invoked callbacks are exactly the live registry entries **in subscription order**, and the registry
after the dispatch is the model's `fire` registry — dead references are never called and exactly they disappear (a plain function is
a subscriber that never dies).
-/
namespace Pyhf.Props.C11
open Pyhf.Events

/-- the model state for the four subscribers: objects 0, 1, 2 with the given liveness; the plain function is object 3 (always alive),
subscribed second -/
def dispatchState (a0 a1 a2 : Bool) : St :=
  { cur := 1, reg := [0, 3, 1, 2],
    objs := [⟨a0, [], 0, []⟩, ⟨a1, [], 0, []⟩, ⟨a2, [], 0, []⟩, ⟨true, [], 0, []⟩] }

/-- ids as the generated table writes them (the plain function is 9) -/
def extId (i : Nat) : Nat := if i = 3 then 9 else i

/-- **dispatch = the model's `fire`**: invoked = the live entries in subscription order = the objects whose cache tag `fire` updates;
left in the registry = `(fire s).reg` -/
theorem gen_callables_dispatch_eq_fire :
    ∀ a0 a1 a2 : Bool,
      Gen.callables_dispatch a0 a1 a2
        = (((dispatchState a0 a1 a2).reg.filter fun i => ((dispatchState a0 a1 a2).obj i).alive).map extId,
           (fire (dispatchState a0 a1 a2)).reg.map extId) ∧
      -- the objects `fire` refreshed (tag = the current backend) are exactly the invoked ones
      ((List.range 4).all fun i =>
        decide (((fire (dispatchState a0 a1 a2)).obj i).tag = 1) == (Gen.callables_dispatch a0 a1 a2).1.contains (extId i)) = true := by
  decide +kernel

/-- dead references are never called; live ones always are -/
theorem gen_dead_never_called (a0 a1 a2 : Bool) :
    (0 ∈ (Gen.callables_dispatch a0 a1 a2).1 ↔ a0 = true) ∧ (1 ∈ (Gen.callables_dispatch a0 a1 a2).1 ↔ a1 = true) ∧
    (2 ∈ (Gen.callables_dispatch a0 a1 a2).1 ↔ a2 = true) ∧ 9 ∈ (Gen.callables_dispatch a0 a1 a2).1 := by
  cases a0 <;> cases a1 <;> cases a2 <;> decide

end Pyhf.Props.C11
