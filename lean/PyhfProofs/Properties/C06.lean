import PyhfModel.Infer
import PyhfProofs.Lemmas.KKT
import Mathlib.Analysis.SpecialFunctions.Log.Basic
import Mathlib.Tactic.Linarith
import Mathlib.Tactic.Ring
/-!
# C06 — profile-likelihood test statistics obey their case definitions
The two fits are parameters returning `(parameters, objective value)` (`FitRes`); `poi` is the POI position.
-/
namespace Pyhf.Props.C06
open Pyhf.Infer

variable (fixedFit : ℝ → FitRes ℝ) (freeFit : FitRes ℝ) (poi : Nat) (mu : ℝ)

/-- `t = max(0, objective(conditional fit) − objective(unconditional fit))` -/
theorem tmu_eq_max : (tmuLike fixedFit freeFit mu).1 = max 0 ((fixedFit mu).val - freeFit.val) := by
  unfold tmuLike
  simp only []
  split_ifs with h
  · exact (max_eq_left h.le).symm
  · exact (max_eq_right (not_lt.mp h)).symm

theorem tmu_nonneg : 0 ≤ (tmuLike fixedFit freeFit mu).1 := by
  rw [tmu_eq_max]; exact le_max_left _ _

/-- every statistic is non-negative -/
theorem teststat_nonneg (ts : TestStat) : 0 ≤ (testStat ts fixedFit freeFit poi mu).1 := by
  cases ts <;> simp only [testStat, qmuLike, q0] <;> (try split_ifs) <;>
    first | exact le_refl _ | exact tmu_nonneg _ _ _

/-- upper-limit statistics are zero whenever the fitted POI exceeds the tested value -/
theorem qmu_zero_of_muhat_gt (h : mu < freeFit.pars.getD poi 0) : (qmuLike fixedFit freeFit poi mu).1 = 0 := by
  unfold qmuLike tmuLike; simp only []; rw [if_pos h]

/-- upper-limit statistics equal the two-sided statistic when the fitted POI does not exceed the tested value -/
theorem qmu_eq_tmu_of_muhat_le (h : freeFit.pars.getD poi 0 ≤ mu) :
    (qmuLike fixedFit freeFit poi mu).1 = (tmuLike fixedFit freeFit mu).1 := by
  unfold qmuLike tmuLike; simp only []; rw [if_neg (not_lt.mpr h)]

/-- the discovery statistic always tests `μ = 0`, whatever value is supplied -/
theorem q0_forces_mu_zero (mu' : ℝ) : q0 fixedFit freeFit poi mu = q0 fixedFit freeFit poi mu' := rfl

theorem q0_uses_fixed_fit_at_zero : (q0 fixedFit freeFit poi mu).2.1 = (fixedFit 0).pars := rfl

theorem q0_zero_of_muhat_neg (h : freeFit.pars.getD poi 0 < 0) : (q0 fixedFit freeFit poi mu).1 = 0 := by
  unfold q0 tmuLike; simp only []; rw [if_pos h]

theorem q0_eq_t0_otherwise (h : 0 ≤ freeFit.pars.getD poi 0) :
    (q0 fixedFit freeFit poi mu).1 = (tmuLike fixedFit freeFit 0).1 := by
  unfold q0 tmuLike; simp only []; rw [if_neg (not_lt.mpr h)]

/-- the two-sided statistics apply no zeroing -/
theorem two_sided_no_zeroing : testStat .t fixedFit freeFit poi mu = tmuLike fixedFit freeFit mu ∧
    testStat .ttilde fixedFit freeFit poi mu = tmuLike fixedFit freeFit mu := ⟨rfl, rfl⟩

/-- `q` and `q̃` are the same function of the fits (they differ only in a warning) -/
theorem q_eq_qtilde : testStat .q fixedFit freeFit poi mu = testStat .qtilde fixedFit freeFit poi mu := rfl

/-- the returned parameters are exactly the two fits' outputs (conditional first) -/
theorem returned_pars_are_fit_outputs (ts : TestStat) (hts : ts ≠ .q0) :
    (testStat ts fixedFit freeFit poi mu).2 = ((fixedFit mu).pars, freeFit.pars) := by
  cases ts <;> first | exact absurd rfl hts | rfl

/-- with exact minimisers the clip is never active: the conditional minimum is not below the unconditional one -/
theorem tmu_no_clip_needed (h : freeFit.val ≤ (fixedFit mu).val) :
    (tmuLike fixedFit freeFit mu).1 = (fixedFit mu).val - freeFit.val := by
  rw [tmu_eq_max]; exact max_eq_right (by linarith)

/-- zero when the tested value is the best-fit value -/
theorem tmu_zero_at_bestfit (h : (fixedFit mu).val = freeFit.val) : (tmuLike fixedFit freeFit mu).1 = 0 := by
  rw [tmu_eq_max, h]; simp

/-! ### closed form: one bin, signal strength only -/

/-- twice the negative log-likelihood of a single Poisson bin, up to the data-only constant `2 log n!` -/
noncomputable def twoNll (n lam : ℝ) : ℝ := 2 * (lam - n * Real.log lam)

/-- the Poisson likelihood is maximised at `λ = n` -/
theorem poisson_nll_min (n lam : ℝ) (hn : 0 < n) (hl : 0 < lam) : twoNll n n ≤ twoNll n lam := by
  have h := KKT.poisson_scalar n n lam hn.le hn hl
  rw [div_self hn.ne', sub_self, zero_mul, add_zero] at h
  unfold twoNll
  linarith

/-- **closed form of `q_μ` for a counting experiment** `n ~ Poisson(μ s + b)`: when the fits return the exact
minimisers (`μ̂ = (n − b)/s`, unconditional objective `twoNll n n`; conditional objective `twoNll n (μ s + b)`),
`q_μ = 2[(μ s + b) − n + n log(n / (μ s + b))]` if `μ̂ ≤ μ`, and `0` otherwise. -/
theorem qmu_single_bin_closed_form (n s b mu : ℝ) (hn : 0 < n) (hs : 0 < s) (hb : 0 < mu * s + b)
    (fixedFit : ℝ → FitRes ℝ) (freeFit : FitRes ℝ)
    (hfix : (fixedFit mu).val = twoNll n (mu * s + b)) (hfree : freeFit.val = twoNll n n)
    (hmuhat : freeFit.pars.getD 0 0 = (n - b) / s) :
    (qmuLike fixedFit freeFit 0 mu).1 =
      if (n - b) / s ≤ mu then 2 * ((mu * s + b) - n + n * Real.log (n / (mu * s + b))) else 0 := by
  by_cases h : (n - b) / s ≤ mu
  · rw [qmu_eq_tmu_of_muhat_le _ _ _ _ (by rw [hmuhat]; exact h), if_pos h,
      tmu_no_clip_needed _ _ _ (by rw [hfix, hfree]; exact poisson_nll_min n _ hn hb), hfix, hfree]
    unfold twoNll
    rw [Real.log_div hn.ne' hb.ne']; ring
  · rw [if_neg h, qmu_zero_of_muhat_gt _ _ _ _ (by rw [hmuhat]; exact not_le.mp h)]

end Pyhf.Props.C06
