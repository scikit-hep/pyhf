import PyhfGen.Config
import PyhfProofs.Lemmas.RealPrim
/-!
# C12 (continued) — what the configuration reports *now*, with every measurement override a symbol

`PyhfGen/Config.lean` is regenerated on every C12 run (`harness/gen_config.py`): `pyhf.Model` is run on a specification with all seven
modifier types in which every yield, variation and uncertainty **and every measurement override** (initial values, bounds, auxiliary
data, widths, factors) is a symbol; `fixed` flags are literals.  The lists below are what `_ModelConfig` then reports.  The theorems
state the by-name layout for **all** values of the symbols: an override appears verbatim at the positions of the parameter set it
names, a quantity without override takes the default of the set's modifier type, the slices tile `range npars`, the auxiliary data
has one entry per constrained component in `auxdata_order`, and the constraint terms use the configured widths / factors.
(Statements about one specification with symbolic numbers — the statement for every specification is in `C12.lean` /
`C12_Overrides.lean` about the hand-written model.)
-/
namespace Pyhf.Props.C12

/-- the double nearest to 1e-10 (lower bound of the bin-wise constrained parameters), exactly -/
noncomputable def tiny : ℝ := 0.00000000010000000000000000364321973154977415791655470655996396089904010295867919921875

variable (s0 s1 slo shi b0 b1 u0 u1 eb0 eb1 hl0 hl1 hh0 hh1 : ℝ)
variable (i_mu lo_mu hi_mu x_lumi sg_lumi i_lumi lo_lumi hi_lumi i_sysA x_sysA i_st0 i_st1 sg_st0 sg_st1 lo_sf0 hi_sf0 lo_sf1 hi_sf1 x_u0 x_u1 f_u0 f_u1 : ℝ)

/-- **slices**: consecutive, in creation order, tiling `range npars`; one name and one fixed flag per component; the POI index lies in
the slice of the parameter named as POI -/
theorem gen_slices_tile :
    (Gen.cfg_par_slices.map fun x => List.range' x.2.1 (x.2.2 - x.2.1)).flatten = List.range Gen.cfg_npars ∧
    Gen.cfg_par_slices.map (·.1) = Gen.cfg_par_order ∧
    Gen.cfg_par_names.length = Gen.cfg_npars ∧ Gen.cfg_suggested_fixed.length = Gen.cfg_npars ∧
    Gen.cfg_par_slices.lookup "mu" = some (Gen.cfg_poi_index, Gen.cfg_poi_index + 1) := by
  decide

/-- **creation order**: by modifier type (histosys, lumi, normfactor, normsys, shapefactor, shapesys, staterror); the constrained sets
keep that order in `auxdata_order` -/
theorem gen_par_order :
    Gen.cfg_par_order = ["sysH", "lumi", "mu", "sysA", "sf", "uncorr", "stat_SR"] ∧
    Gen.cfg_auxdata_order = ["sysH", "lumi", "sysA", "uncorr", "stat_SR"] ∧
    Gen.cfg_auxdata_order = Gen.cfg_par_order.filter (fun n => n != "mu" && n != "sf") := by
  decide

/-- **fixed flags**: `fixed: true` on lumi marks exactly its component, `fixed: false` (stat_SR) and no entry leave the others free -/
theorem gen_fixed_flags :
    Gen.cfg_suggested_fixed = [false, true, false, false, false, false, false, false, false, false] := by decide

/-- **initial values**: overrides verbatim at the named set's positions (lumi, mu, sysA, stat_SR), type defaults elsewhere (0 for the
interpolated systematic without entry, 1 for shape factor and uncorrelated shape) -/
theorem gen_suggested_init :
    Gen.cfg_suggested_init realPrim s0 s1 slo shi b0 b1 u0 u1 eb0 eb1 hl0 hl1 hh0 hh1 i_mu lo_mu hi_mu x_lumi sg_lumi i_lumi lo_lumi hi_lumi i_sysA x_sysA i_st0 i_st1 sg_st0 sg_st1 lo_sf0 hi_sf0 lo_sf1 hi_sf1 x_u0 x_u1 f_u0 f_u1
      = [0, i_lumi, i_mu, i_sysA, 1, 1, 1, 1, i_st0, i_st1] := by
  simp only [Gen.cfg_suggested_init]; norm_num

/-- **bounds**: overrides verbatim (lumi, mu, both components of the shape factor), defaults (−5, 5) for interpolated systematics and
(1e-10, 10) for the bin-wise constrained sets -/
theorem gen_suggested_bounds :
    Gen.cfg_suggested_bounds_lo realPrim s0 s1 slo shi b0 b1 u0 u1 eb0 eb1 hl0 hl1 hh0 hh1 i_mu lo_mu hi_mu x_lumi sg_lumi i_lumi lo_lumi hi_lumi i_sysA x_sysA i_st0 i_st1 sg_st0 sg_st1 lo_sf0 hi_sf0 lo_sf1 hi_sf1 x_u0 x_u1 f_u0 f_u1
      = [-5, lo_lumi, lo_mu, -5, lo_sf0, lo_sf1, tiny, tiny, tiny, tiny] ∧
    Gen.cfg_suggested_bounds_hi realPrim s0 s1 slo shi b0 b1 u0 u1 eb0 eb1 hl0 hl1 hh0 hh1 i_mu lo_mu hi_mu x_lumi sg_lumi i_lumi lo_lumi hi_lumi i_sysA x_sysA i_st0 i_st1 sg_st0 sg_st1 lo_sf0 hi_sf0 lo_sf1 hi_sf1 x_u0 x_u1 f_u0 f_u1
      = [5, hi_lumi, hi_mu, 5, hi_sf0, hi_sf1, 10, 10, 10, 10] := by
  simp only [Gen.cfg_suggested_bounds_lo, Gen.cfg_suggested_bounds_hi, tiny]; norm_num

/-- **auxiliary data**: one entry per constrained component in `auxdata_order`; overrides verbatim (lumi, sysA, both bins of the
uncorrelated shape), defaults 0 (interpolated systematic) and 1 (MC-statistical) elsewhere -/
theorem gen_auxdata :
    Gen.cfg_auxdata realPrim s0 s1 slo shi b0 b1 u0 u1 eb0 eb1 hl0 hl1 hh0 hh1 i_mu lo_mu hi_mu x_lumi sg_lumi i_lumi lo_lumi hi_lumi i_sysA x_sysA i_st0 i_st1 sg_st0 sg_st1 lo_sf0 hi_sf0 lo_sf1 hi_sf1 x_u0 x_u1 f_u0 f_u1
      = [0, x_lumi, x_sysA, x_u0, x_u1, 1, 1] := by
  simp only [Gen.cfg_auxdata]; norm_num

/-- **constraint widths and factors**: the configured luminosity width, the configured MC-statistical widths (an override replaces the
computed ones) and unit widths for the interpolated systematics; the configured Poisson factors of the uncorrelated shape -/
theorem gen_constraint_settings :
    Gen.cfg_normal_widths realPrim s0 s1 slo shi b0 b1 u0 u1 eb0 eb1 hl0 hl1 hh0 hh1 i_mu lo_mu hi_mu x_lumi sg_lumi i_lumi lo_lumi hi_lumi i_sysA x_sysA i_st0 i_st1 sg_st0 sg_st1 lo_sf0 hi_sf0 lo_sf1 hi_sf1 x_u0 x_u1 f_u0 f_u1
      = [1, sg_lumi, 1, sg_st0, sg_st1] ∧
    Gen.cfg_poisson_factors realPrim s0 s1 slo shi b0 b1 u0 u1 eb0 eb1 hl0 hl1 hh0 hh1 i_mu lo_mu hi_mu x_lumi sg_lumi i_lumi lo_lumi hi_lumi i_sysA x_sysA i_st0 i_st1 sg_st0 sg_st1 lo_sf0 hi_sf0 lo_sf1 hi_sf1 x_u0 x_u1 f_u0 f_u1
      = [f_u0, f_u1] := by
  simp only [Gen.cfg_normal_widths, Gen.cfg_poisson_factors]; norm_num

/-- **channel layout** (three channels listed as ZR, AR, MR with 3, 1, 2 bins): the reported channels are the declared ones in sorted
order; every channel's reported bin count and the width of its slice are the bin count *declared under that name*; the slices tile
`[0, nmaindata)` in the reported channel order; the samples are the sorted union; the parameter slices tile `[0, npars)` -/
theorem gen_channel_layout :
    Gen.lay_channels = ["AR", "MR", "ZR"] ∧ Gen.lay_samples = ["qcd", "ttbar", "wjets"] ∧
    Gen.lay_channel_nbins.map (·.1) = Gen.lay_channels ∧ Gen.lay_channel_slices.map (·.1) = Gen.lay_channels ∧
    (∀ e ∈ Gen.lay_channel_nbins, Gen.lay_declared.lookup e.1 = some e.2) ∧
    (∀ e ∈ Gen.lay_channel_slices, Gen.lay_declared.lookup e.1 = some (e.2.2 - e.2.1)) ∧
    (Gen.lay_channel_slices.map fun x => List.range' x.2.1 (x.2.2 - x.2.1)).flatten = List.range Gen.lay_nmaindata ∧
    (Gen.lay_par_slices.map fun x => List.range' x.2.1 (x.2.2 - x.2.1)).flatten = List.range Gen.lay_npars := by
  decide

end Pyhf.Props.C12
