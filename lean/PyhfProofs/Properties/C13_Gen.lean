import PyhfGen.Model
import PyhfGen.Interp
import PyhfGen.Prob
import PyhfProofs.Properties.C13
import PyhfProofs.Properties.C04_Gen
import Mathlib.Tactic.Positivity
/-!
# C13 (continued) — the reference gradient is the true gradient of what the code computes *now*

`PyhfGen/Model.lean` and `PyhfGen/Prob.lean` are regenerated on every run by symbolic execution of `pyhf.Model(...).logpdf` and of the
numpy / jax probability compositions; the generated definitions are generic in the number type.  Here they are instantiated **at dual
numbers** (`Pyhf.Dual ℝ`, the forward-mode type the harness uses as the reference gradient the autodiff engines are compared with)
and at `ℝ`, and the dual instance is proved to be a lift of the real one: its value is the log-likelihood the code computes and its
derivative component is the **true partial derivative** (`HasDerivAt`) with respect to the seeded parameter — for the whole composed
log-likelihood (Poisson terms through `xlogy − λ − gammaln`, Gaussian and Poisson constraint terms, MC-statistical widths), for every
parameter direction, at every point with positive parameters, whatever the observed counts.  For shapes with interpolated
systematics the statement holds away from the interpolation breakpoints (the selection lemmas need a strict comparison).
This closes, for these shapes, the composition step `C13.lean` leaves open (parametricity is not available in general); the autodiff
engines themselves stay monitored.
-/
namespace Pyhf.Props.C13
open Pyhf.Prob Pyhf.Props.C04

/-- `xlogy` on dual numbers with a first argument that does not depend on the variable: `d/dt [n log λ(t)] = n λ'(t)/λ(t)` -/
noncomputable def xlogyD (n lam : Dual ℝ) : Dual ℝ := ⟨xlogy realPrim n.v lam.v, n.v * lam.d / lam.v⟩
/-- `gammaln` on dual numbers for an argument that does not depend on the variable (observed counts) -/
noncomputable def lgammaD (a : Dual ℝ) : Dual ℝ := ⟨lgammaR a.v, 0⟩

section lemmas
variable {A B T E G : ℝ → Dual ℝ} {a b tt e g : ℝ → ℝ} {x : ℝ}

theorem dual_xlogy_const (c : ℝ) (hG : IsLift G g x) (hg : g x ≠ 0) :
    IsLift (fun t => xlogyD (Dual.const c) (G t)) (fun t => xlogy realPrim c (g t)) x := by
  obtain ⟨d, hG, hd⟩ := hG.exists_eq
  simp only [xlogy_real]
  exact .of_eq (((hd.log hg).const_mul c).congr_deriv (mul_div_assoc _ _ _).symm)
    (by rw [hG]; exact congrArg (Dual.mk · _) (xlogy_real _ _))

theorem dual_lgamma_const (c : ℝ) :
    IsLift (fun _ : ℝ => lgammaD (Dual.const c + (1.0 : Dual ℝ))) (fun _ => lgammaR (c + 1.0)) x :=
  ⟨rfl, hasDerivAt_const x _⟩

/-- **selection on a strict comparison of two lifted quantities**, away from equality: the dual `if` (which compares values) is a lift
of the real `if` -/
theorem dual_ite_lt (hA : IsLift A a x) (hB : IsLift B b x) (hT : IsLift T tt x) (hE : IsLift E e x) (hne : a x ≠ b x) :
    IsLift (fun t => if A t < B t then T t else E t) (fun t => if a t < b t then tt t else e t) x :=
  .ite (by show (A x).v < (B x).v ↔ _; rw [hA.1, hB.1])
    ((eventually_cmp_iff hA.2.continuousAt hB.2.continuousAt hne).mono fun _ h => h.1) (fun _ => hT) (fun _ => hE)

/-- selection on a non-strict comparison `A ≤ B` of two lifted quantities, likewise away from equality -/
theorem dual_ite_le (hA : IsLift A a x) (hB : IsLift B b x) (hT : IsLift T tt x) (hE : IsLift E e x) (hne : a x ≠ b x) :
    IsLift (fun t => if A t ≤ B t then T t else E t) (fun t => if a t ≤ b t then tt t else e t) x :=
  .ite (by show (A x).v ≤ (B x).v ↔ _; rw [hA.1, hB.1])
    ((eventually_cmp_iff hA.2.continuousAt hB.2.continuousAt hne).mono fun _ h => h.2) (fun _ => hT) (fun _ => hE)

/-- a power with a literal natural exponent, written `pow(·, n.0)` in the code, for a base of either sign (away from 0, where the
dual formula divides by the base); `c` is the literal as the code has it -/
theorem dual_rpow_natlit {F : ℝ → Dual ℝ} {f : ℝ → ℝ} (c : ℝ) (n : ℕ) (hc : c = n) (hF : IsLift F f x) (hf : f x ≠ 0) :
    IsLift (fun t => (Dual.prim realPrim).pow (F t) (Dual.const c)) (fun t => f t ^ c) x := by
  subst hc
  obtain ⟨d, hF, hd⟩ := hF.exists_eq
  simp only [Real.rpow_natCast]
  refine .of_eq (d := f x ^ (n : ℝ) * (0 * Real.log (f x) + n * d / f x)) ((hd.pow n).congr_deriv ?_)
    (by rw [hF]; exact congrArg (Dual.mk · _) (Real.rpow_natCast _ _))
  rw [Real.rpow_natCast]
  rcases n with _ | m
  · simp
  · simp only [Nat.add_sub_cancel]; field_simp; ring

theorem dual_rpow_2 {F : ℝ → Dual ℝ} {f : ℝ → ℝ} (hF : IsLift F f x) (hf : f x ≠ 0) :
    IsLift (fun t => (Dual.prim realPrim).pow (F t) (2.0 : Dual ℝ)) (fun t => f t ^ (2.0 : ℝ)) x := dual_rpow_natlit 2.0 2 (by norm_num) hF hf
theorem dual_rpow_3 {F : ℝ → Dual ℝ} {f : ℝ → ℝ} (hF : IsLift F f x) (hf : f x ≠ 0) :
    IsLift (fun t => (Dual.prim realPrim).pow (F t) (3.0 : Dual ℝ)) (fun t => f t ^ (3.0 : ℝ)) x := dual_rpow_natlit 3.0 3 (by norm_num) hF hf
theorem dual_rpow_4 {F : ℝ → Dual ℝ} {f : ℝ → ℝ} (hF : IsLift F f x) (hf : f x ≠ 0) :
    IsLift (fun t => (Dual.prim realPrim).pow (F t) (4.0 : Dual ℝ)) (fun t => f t ^ (4.0 : ℝ)) x := dual_rpow_natlit 4.0 4 (by norm_num) hF hf
theorem dual_rpow_5 {F : ℝ → Dual ℝ} {f : ℝ → ℝ} (hF : IsLift F f x) (hf : f x ≠ 0) :
    IsLift (fun t => (Dual.prim realPrim).pow (F t) (5.0 : Dual ℝ)) (fun t => f t ^ (5.0 : ℝ)) x := dual_rpow_natlit 5.0 5 (by norm_num) hF hf
theorem dual_rpow_6 {F : ℝ → Dual ℝ} {f : ℝ → ℝ} (hF : IsLift F f x) (hf : f x ≠ 0) :
    IsLift (fun t => (Dual.prim realPrim).pow (F t) (6.0 : Dual ℝ)) (fun t => f t ^ (6.0 : ℝ)) x := dual_rpow_natlit 6.0 6 (by norm_num) hF hf

end lemmas

/-- apply the lifting lemmas down to constants and the seeded variable; what is left are the side conditions (non-vanishing /
positivity of intermediate values, strictness of comparisons).  The lemmas are tried up to reducible unfolding only (after the real
side's `realPrim.f` are rewritten to Mathlib's functions, as the lemmas state them): a lemma for the wrong operation then fails at
the head symbol, where full unification would first unfold both `Dual` operations to pairs and compare the components.  A literal
(`1.0 : Dual ℝ`) is a constant only after unfolding, so it is recognised by its head first. -/
macro "lift_all" : tactic =>
  `(tactic| ((all_goals try simp only [realPrim_pow, realPrim_sqrt, realPrim_log]); repeat' (first
      | with_reducible exact dual_const _
      | ((with_reducible show IsLift (fun _ => OfScientific.ofScientific _ _ _) _ _); exact dual_const _)
      | with_reducible apply dual_mul
      | with_reducible apply dual_add
      | with_reducible assumption
      | with_reducible exact dual_var
      | with_reducible apply dual_sub
      | with_reducible apply dual_div
      | with_reducible apply dual_neg
      | with_reducible apply dual_rpow_2
      | with_reducible apply dual_sqrt
      | with_reducible apply dual_log
      | with_reducible apply dual_ite_lt
      | with_reducible apply dual_ite_le
      | with_reducible apply dual_rpow)))

/-! the Poisson and Gaussian log-densities as numpy composes them, in their mean resp. mean and width (data constant) -/
theorem dual_np_poisson_logpdf {G : ℝ → Dual ℝ} {g : ℝ → ℝ} {x n : ℝ} (hG : IsLift G g x) (hg : g x ≠ 0) :
    IsLift (fun t => Gen.np_poisson_logpdf (Dual.prim realPrim) xlogyD lgammaD (Dual.const n) (G t))
      (fun t => Gen.np_poisson_logpdf realPrim (xlogy realPrim) lgammaR n (g t)) x :=
  dual_sub (dual_sub (dual_xlogy_const n hG hg) hG) (dual_lgamma_const n)

theorem dual_np_normal_logpdf {M S : ℝ → Dual ℝ} {m s : ℝ → ℝ} {x a : ℝ} (hM : IsLift M m x) (hS : IsLift S s x)
    (hs : 0 < s x) :
    IsLift (fun t => Gen.np_normal_logpdf (Dual.prim realPrim) (Dual.const Real.pi) (Dual.const a) (M t) (S t))
      (fun t => Gen.np_normal_logpdf realPrim Real.pi a (m t) (s t)) x := by
  unfold Gen.np_normal_logpdf
  lift_all
  all_goals positivity

/-! ## the interpolation functions the vectorised classes compute (one cell, `PyhfGen/Interp.lean`), seeded in alpha, away from their breakpoints -/

/-- code 0 (piecewise linear): the dual evaluation carries `d/dα`, for `α ≠ 0` -/
theorem gen_code0_dual (dn nom up a : ℝ) (h0 : a ≠ 0) (h1 : a ≠ 1) (hm : a ≠ -1) :
    IsLift (fun t => Gen.fast_code0 (Dual.prim realPrim) (Dual.const dn) (Dual.const nom) (Dual.const up) (Dual.var t))
           (fun t => Gen.fast_code0 realPrim dn nom up t) a := by
  unfold Gen.fast_code0; lift_all
  rw [sci_0]; exact h0.symm

/-- code 2 (quadratic inside, linear outside), for `α ∉ {−1, 1}` -/
theorem gen_code2_dual (dn nom up a : ℝ) (h0 : a ≠ 0) (h1 : a ≠ 1) (hm : a ≠ -1) :
    IsLift (fun t => Gen.fast_code2 (Dual.prim realPrim) (Dual.const dn) (Dual.const nom) (Dual.const up) (Dual.var t))
           (fun t => Gen.fast_code2 realPrim dn nom up t) a := by
  unfold Gen.fast_code2; lift_all
  -- left: one strictness condition per comparison of the tree (`-1 ≤ α` occurs under both outcomes of `1 < α`)
  all_goals rw [sci_1]
  exacts [hm.symm, hm.symm, h1.symm]

/-- code 4p (sixth-order polynomial inside, linear outside), for `α ∉ {−1, 0, 1}` (at 0 the dual formula of `pow(α, 2)` divides by α) -/
theorem gen_code4p_dual (dn nom up a : ℝ) (h0 : a ≠ 0) (h1 : a ≠ 1) (hm : a ≠ -1) :
    IsLift (fun t => Gen.fast_code4p (Dual.prim realPrim) (Dual.const dn) (Dual.const nom) (Dual.const up) (Dual.var t))
           (fun t => Gen.fast_code4p realPrim dn nom up t) a := by
  unfold Gen.fast_code4p; lift_all
  all_goals rw [sci_1]
  exacts [hm, hm, h1.symm]

/-- code 1 (piecewise exponential, `(up/nom)^α` resp. `(dn/nom)^(−α)`), for `α ≠ 0` and positive variations -/
theorem gen_code1_dual (dn nom up a : ℝ) (h0 : a ≠ 0) (hd : 0 < dn) (hn : 0 < nom) (hu : 0 < up) :
    IsLift (fun t => Gen.fast_code1 (Dual.prim realPrim) (Dual.const dn) (Dual.const nom) (Dual.const up) (Dual.var t))
           (fun t => Gen.fast_code1 realPrim dn nom up t) a := by
  unfold Gen.fast_code1; lift_all
  case hne => rw [sci_0]; exact h0.symm
  all_goals positivity

/-! ## the composed log-likelihood of shape F (bin-wise constraints: uncorrelated shape + MC-statistical, signal strength), every direction -/

/-- **Composition.**  The generated log-likelihood of shape F maps lifts of its five parameters to a lift of itself (at a point where
they are positive): the derivative the dual evaluation carries is the derivative along whatever curve the parameters move on.  The
five theorems after it are its partial derivatives: one parameter is the variable (`dual_var`), the others are constant. -/
theorem shapeF_logpdf_lift {Mu U0 U1 S0 S1 : ℝ → Dual ℝ} {mu u0' u1' st0 st1 : ℝ → ℝ} {x : ℝ}
    (hMu : IsLift Mu mu x) (hU0 : IsLift U0 u0' x) (hU1 : IsLift U1 u1' x) (hS0 : IsLift S0 st0 x) (hS1 : IsLift S1 st1 x)
    {s0 s1 es0 es1 b0 b1 u0 u1 eb0 eb1 d0 d1 a0 a1 a2 a3 : ℝ} (hs0 : 0 < s0) (hs1 : 0 < s1) (hes0 : 0 < es0) (hes1 : 0 < es1)
    (hb0 : 0 < b0) (hb1 : 0 < b1) (hu0 : 0 < u0) (hu1 : 0 < u1) (heb0 : 0 < eb0) (heb1 : 0 < eb1)
    (hmu : 0 < mu x) (hu0' : 0 < u0' x) (hu1' : 0 < u1' x) (hst0 : 0 < st0 x) (hst1 : 0 < st1 x) :
    IsLift (fun t => Gen.shapeF_logpdf (Dual.prim realPrim) (Gen.np_poisson_logpdf (Dual.prim realPrim) xlogyD lgammaD)
                       (Gen.np_normal_logpdf (Dual.prim realPrim) (Dual.const Real.pi)) (Dual.const s0) (Dual.const s1) (Dual.const es0) (Dual.const es1) (Dual.const b0) (Dual.const b1) (Dual.const u0) (Dual.const u1) (Dual.const eb0) (Dual.const eb1) (Mu t) (U0 t) (U1 t) (S0 t) (S1 t) (Dual.const d0) (Dual.const d1) (Dual.const a0) (Dual.const a1) (Dual.const a2) (Dual.const a3))
           (fun t => Gen.shapeF_logpdf realPrim (Gen.np_poisson_logpdf realPrim (xlogy realPrim) lgammaR)
                       (Gen.np_normal_logpdf realPrim Real.pi) s0 s1 es0 es1 b0 b1 u0 u1 eb0 eb1 (mu t) (u0' t) (u1' t) (st0 t) (st1 t) d0 d1 a0 a1 a2 a3) x := by
  -- the Poisson terms of the two bins, the Gaussian constraints of the two MC-statistical factors, the Poisson constraints of the
  -- two uncorrelated shape factors
  refine dual_add (dual_add (dual_np_poisson_logpdf ?_ ?_) (dual_np_poisson_logpdf ?_ ?_))
    (dual_add (dual_add (dual_np_normal_logpdf hS0 ?_ ?_) (dual_np_normal_logpdf hS1 ?_ ?_))
      (dual_add (dual_np_poisson_logpdf ?_ ?_) (dual_np_poisson_logpdf ?_ ?_)))
  lift_all
  all_goals positivity

theorem shapeF_logpdf_dual_p_mu (s0 s1 es0 es1 b0 b1 u0 u1 eb0 eb1 p_mu p_uncorr_0 p_uncorr_1 p_stat_SR_0 p_stat_SR_1 d0 d1 a0 a1 a2 a3 : ℝ) (hs0 : 0 < s0) (hs1 : 0 < s1) (hes0 : 0 < es0) (hes1 : 0 < es1) (hb0 : 0 < b0) (hb1 : 0 < b1) (hu0 : 0 < u0) (hu1 : 0 < u1) (heb0 : 0 < eb0) (heb1 : 0 < eb1) (hp_mu : 0 < p_mu) (hp_uncorr_0 : 0 < p_uncorr_0) (hp_uncorr_1 : 0 < p_uncorr_1) (hp_stat_SR_0 : 0 < p_stat_SR_0) (hp_stat_SR_1 : 0 < p_stat_SR_1) :
    IsLift (fun t => Gen.shapeF_logpdf (Dual.prim realPrim) (Gen.np_poisson_logpdf (Dual.prim realPrim) xlogyD lgammaD)
                       (Gen.np_normal_logpdf (Dual.prim realPrim) (Dual.const Real.pi)) (Dual.const s0) (Dual.const s1) (Dual.const es0) (Dual.const es1) (Dual.const b0) (Dual.const b1) (Dual.const u0) (Dual.const u1) (Dual.const eb0) (Dual.const eb1) (Dual.var t) (Dual.const p_uncorr_0) (Dual.const p_uncorr_1) (Dual.const p_stat_SR_0) (Dual.const p_stat_SR_1) (Dual.const d0) (Dual.const d1) (Dual.const a0) (Dual.const a1) (Dual.const a2) (Dual.const a3))
           (fun t => Gen.shapeF_logpdf realPrim (Gen.np_poisson_logpdf realPrim (xlogy realPrim) lgammaR)
                       (Gen.np_normal_logpdf realPrim Real.pi) s0 s1 es0 es1 b0 b1 u0 u1 eb0 eb1 t p_uncorr_0 p_uncorr_1 p_stat_SR_0 p_stat_SR_1 d0 d1 a0 a1 a2 a3) p_mu :=
  shapeF_logpdf_lift dual_var (dual_const _) (dual_const _) (dual_const _) (dual_const _)
    hs0 hs1 hes0 hes1 hb0 hb1 hu0 hu1 heb0 heb1 hp_mu hp_uncorr_0 hp_uncorr_1 hp_stat_SR_0 hp_stat_SR_1

theorem shapeF_logpdf_dual_p_uncorr_0 (s0 s1 es0 es1 b0 b1 u0 u1 eb0 eb1 p_mu p_uncorr_0 p_uncorr_1 p_stat_SR_0 p_stat_SR_1 d0 d1 a0 a1 a2 a3 : ℝ) (hs0 : 0 < s0) (hs1 : 0 < s1) (hes0 : 0 < es0) (hes1 : 0 < es1) (hb0 : 0 < b0) (hb1 : 0 < b1) (hu0 : 0 < u0) (hu1 : 0 < u1) (heb0 : 0 < eb0) (heb1 : 0 < eb1) (hp_mu : 0 < p_mu) (hp_uncorr_0 : 0 < p_uncorr_0) (hp_uncorr_1 : 0 < p_uncorr_1) (hp_stat_SR_0 : 0 < p_stat_SR_0) (hp_stat_SR_1 : 0 < p_stat_SR_1) :
    IsLift (fun t => Gen.shapeF_logpdf (Dual.prim realPrim) (Gen.np_poisson_logpdf (Dual.prim realPrim) xlogyD lgammaD)
                       (Gen.np_normal_logpdf (Dual.prim realPrim) (Dual.const Real.pi)) (Dual.const s0) (Dual.const s1) (Dual.const es0) (Dual.const es1) (Dual.const b0) (Dual.const b1) (Dual.const u0) (Dual.const u1) (Dual.const eb0) (Dual.const eb1) (Dual.const p_mu) (Dual.var t) (Dual.const p_uncorr_1) (Dual.const p_stat_SR_0) (Dual.const p_stat_SR_1) (Dual.const d0) (Dual.const d1) (Dual.const a0) (Dual.const a1) (Dual.const a2) (Dual.const a3))
           (fun t => Gen.shapeF_logpdf realPrim (Gen.np_poisson_logpdf realPrim (xlogy realPrim) lgammaR)
                       (Gen.np_normal_logpdf realPrim Real.pi) s0 s1 es0 es1 b0 b1 u0 u1 eb0 eb1 p_mu t p_uncorr_1 p_stat_SR_0 p_stat_SR_1 d0 d1 a0 a1 a2 a3) p_uncorr_0 :=
  shapeF_logpdf_lift (dual_const _) dual_var (dual_const _) (dual_const _) (dual_const _)
    hs0 hs1 hes0 hes1 hb0 hb1 hu0 hu1 heb0 heb1 hp_mu hp_uncorr_0 hp_uncorr_1 hp_stat_SR_0 hp_stat_SR_1

theorem shapeF_logpdf_dual_p_uncorr_1 (s0 s1 es0 es1 b0 b1 u0 u1 eb0 eb1 p_mu p_uncorr_0 p_uncorr_1 p_stat_SR_0 p_stat_SR_1 d0 d1 a0 a1 a2 a3 : ℝ) (hs0 : 0 < s0) (hs1 : 0 < s1) (hes0 : 0 < es0) (hes1 : 0 < es1) (hb0 : 0 < b0) (hb1 : 0 < b1) (hu0 : 0 < u0) (hu1 : 0 < u1) (heb0 : 0 < eb0) (heb1 : 0 < eb1) (hp_mu : 0 < p_mu) (hp_uncorr_0 : 0 < p_uncorr_0) (hp_uncorr_1 : 0 < p_uncorr_1) (hp_stat_SR_0 : 0 < p_stat_SR_0) (hp_stat_SR_1 : 0 < p_stat_SR_1) :
    IsLift (fun t => Gen.shapeF_logpdf (Dual.prim realPrim) (Gen.np_poisson_logpdf (Dual.prim realPrim) xlogyD lgammaD)
                       (Gen.np_normal_logpdf (Dual.prim realPrim) (Dual.const Real.pi)) (Dual.const s0) (Dual.const s1) (Dual.const es0) (Dual.const es1) (Dual.const b0) (Dual.const b1) (Dual.const u0) (Dual.const u1) (Dual.const eb0) (Dual.const eb1) (Dual.const p_mu) (Dual.const p_uncorr_0) (Dual.var t) (Dual.const p_stat_SR_0) (Dual.const p_stat_SR_1) (Dual.const d0) (Dual.const d1) (Dual.const a0) (Dual.const a1) (Dual.const a2) (Dual.const a3))
           (fun t => Gen.shapeF_logpdf realPrim (Gen.np_poisson_logpdf realPrim (xlogy realPrim) lgammaR)
                       (Gen.np_normal_logpdf realPrim Real.pi) s0 s1 es0 es1 b0 b1 u0 u1 eb0 eb1 p_mu p_uncorr_0 t p_stat_SR_0 p_stat_SR_1 d0 d1 a0 a1 a2 a3) p_uncorr_1 :=
  shapeF_logpdf_lift (dual_const _) (dual_const _) dual_var (dual_const _) (dual_const _)
    hs0 hs1 hes0 hes1 hb0 hb1 hu0 hu1 heb0 heb1 hp_mu hp_uncorr_0 hp_uncorr_1 hp_stat_SR_0 hp_stat_SR_1

theorem shapeF_logpdf_dual_p_stat_SR_0 (s0 s1 es0 es1 b0 b1 u0 u1 eb0 eb1 p_mu p_uncorr_0 p_uncorr_1 p_stat_SR_0 p_stat_SR_1 d0 d1 a0 a1 a2 a3 : ℝ) (hs0 : 0 < s0) (hs1 : 0 < s1) (hes0 : 0 < es0) (hes1 : 0 < es1) (hb0 : 0 < b0) (hb1 : 0 < b1) (hu0 : 0 < u0) (hu1 : 0 < u1) (heb0 : 0 < eb0) (heb1 : 0 < eb1) (hp_mu : 0 < p_mu) (hp_uncorr_0 : 0 < p_uncorr_0) (hp_uncorr_1 : 0 < p_uncorr_1) (hp_stat_SR_0 : 0 < p_stat_SR_0) (hp_stat_SR_1 : 0 < p_stat_SR_1) :
    IsLift (fun t => Gen.shapeF_logpdf (Dual.prim realPrim) (Gen.np_poisson_logpdf (Dual.prim realPrim) xlogyD lgammaD)
                       (Gen.np_normal_logpdf (Dual.prim realPrim) (Dual.const Real.pi)) (Dual.const s0) (Dual.const s1) (Dual.const es0) (Dual.const es1) (Dual.const b0) (Dual.const b1) (Dual.const u0) (Dual.const u1) (Dual.const eb0) (Dual.const eb1) (Dual.const p_mu) (Dual.const p_uncorr_0) (Dual.const p_uncorr_1) (Dual.var t) (Dual.const p_stat_SR_1) (Dual.const d0) (Dual.const d1) (Dual.const a0) (Dual.const a1) (Dual.const a2) (Dual.const a3))
           (fun t => Gen.shapeF_logpdf realPrim (Gen.np_poisson_logpdf realPrim (xlogy realPrim) lgammaR)
                       (Gen.np_normal_logpdf realPrim Real.pi) s0 s1 es0 es1 b0 b1 u0 u1 eb0 eb1 p_mu p_uncorr_0 p_uncorr_1 t p_stat_SR_1 d0 d1 a0 a1 a2 a3) p_stat_SR_0 :=
  shapeF_logpdf_lift (dual_const _) (dual_const _) (dual_const _) dual_var (dual_const _)
    hs0 hs1 hes0 hes1 hb0 hb1 hu0 hu1 heb0 heb1 hp_mu hp_uncorr_0 hp_uncorr_1 hp_stat_SR_0 hp_stat_SR_1

theorem shapeF_logpdf_dual_p_stat_SR_1 (s0 s1 es0 es1 b0 b1 u0 u1 eb0 eb1 p_mu p_uncorr_0 p_uncorr_1 p_stat_SR_0 p_stat_SR_1 d0 d1 a0 a1 a2 a3 : ℝ) (hs0 : 0 < s0) (hs1 : 0 < s1) (hes0 : 0 < es0) (hes1 : 0 < es1) (hb0 : 0 < b0) (hb1 : 0 < b1) (hu0 : 0 < u0) (hu1 : 0 < u1) (heb0 : 0 < eb0) (heb1 : 0 < eb1) (hp_mu : 0 < p_mu) (hp_uncorr_0 : 0 < p_uncorr_0) (hp_uncorr_1 : 0 < p_uncorr_1) (hp_stat_SR_0 : 0 < p_stat_SR_0) (hp_stat_SR_1 : 0 < p_stat_SR_1) :
    IsLift (fun t => Gen.shapeF_logpdf (Dual.prim realPrim) (Gen.np_poisson_logpdf (Dual.prim realPrim) xlogyD lgammaD)
                       (Gen.np_normal_logpdf (Dual.prim realPrim) (Dual.const Real.pi)) (Dual.const s0) (Dual.const s1) (Dual.const es0) (Dual.const es1) (Dual.const b0) (Dual.const b1) (Dual.const u0) (Dual.const u1) (Dual.const eb0) (Dual.const eb1) (Dual.const p_mu) (Dual.const p_uncorr_0) (Dual.const p_uncorr_1) (Dual.const p_stat_SR_0) (Dual.var t) (Dual.const d0) (Dual.const d1) (Dual.const a0) (Dual.const a1) (Dual.const a2) (Dual.const a3))
           (fun t => Gen.shapeF_logpdf realPrim (Gen.np_poisson_logpdf realPrim (xlogy realPrim) lgammaR)
                       (Gen.np_normal_logpdf realPrim Real.pi) s0 s1 es0 es1 b0 b1 u0 u1 eb0 eb1 p_mu p_uncorr_0 p_uncorr_1 p_stat_SR_0 t d0 d1 a0 a1 a2 a3) p_stat_SR_1 :=
  shapeF_logpdf_lift (dual_const _) (dual_const _) (dual_const _) (dual_const _) dual_var
    hs0 hs1 hes0 hes1 hb0 hb1 hu0 hu1 heb0 heb1 hp_mu hp_uncorr_0 hp_uncorr_1 hp_stat_SR_0 hp_stat_SR_1

/-! ## expected rates of shape B (interpolated shape systematic code 4p, luminosity, uncorrelated shape, MC-statistical), every bin and direction -/

/-- **Composition**, expected rate of bin 0 of shape B: lifts of the parameters give a lift of the rate, away from the breakpoints
±1 of the interpolated systematic and from 0, where the dual formula of `pow(α, 2)` divides by α.  The two bin-wise parameters of
bin 1 do not occur in it and may be anything.  The seven theorems after it are the partial derivatives. -/
theorem shapeB_bin0_lift {H L M U0 U1 S0 S1 : ℝ → Dual ℝ} {h l m u0' u1' st0 st1 : ℝ → ℝ} {x : ℝ}
    (hH : IsLift H h x) (hL : IsLift L l x) (hM : IsLift M m x) (hU0 : IsLift U0 u0' x) (hS0 : IsLift S0 st0 x)
    {s0 s1 es0 es1 b0 b1 u0 u1 eb0 eb1 hl0 hl1 hh0 hh1 : ℝ} (h0 : h x ≠ 0) (h1 : h x ≠ 1) (hm : h x ≠ -1) :
    IsLift (fun t => Gen.shapeB_bin0 (Dual.prim realPrim) (Dual.const s0) (Dual.const s1) (Dual.const es0) (Dual.const es1) (Dual.const b0) (Dual.const b1) (Dual.const u0) (Dual.const u1) (Dual.const eb0) (Dual.const eb1) (Dual.const hl0) (Dual.const hl1) (Dual.const hh0) (Dual.const hh1) (H t) (L t) (M t) (U0 t) (U1 t) (S0 t) (S1 t))
           (fun t => Gen.shapeB_bin0 realPrim s0 s1 es0 es1 b0 b1 u0 u1 eb0 eb1 hl0 hl1 hh0 hh1 (h t) (l t) (m t) (u0' t) (u1' t) (st0 t) (st1 t)) x := by
  unfold Gen.shapeB_bin0
  lift_all
  all_goals rw [sci_1]
  exacts [hm, hm, h1.symm]

theorem shapeB_bin0_dual_p_sysH (s0 s1 es0 es1 b0 b1 u0 u1 eb0 eb1 hl0 hl1 hh0 hh1 p_sysH p_lumi p_mu p_uncorr_0 p_uncorr_1 p_stat_SR_0 p_stat_SR_1 : ℝ) (h0 : p_sysH ≠ 0) (h1 : p_sysH ≠ 1) (hm : p_sysH ≠ -1) :
    IsLift (fun t => Gen.shapeB_bin0 (Dual.prim realPrim) (Dual.const s0) (Dual.const s1) (Dual.const es0) (Dual.const es1) (Dual.const b0) (Dual.const b1) (Dual.const u0) (Dual.const u1) (Dual.const eb0) (Dual.const eb1) (Dual.const hl0) (Dual.const hl1) (Dual.const hh0) (Dual.const hh1) (Dual.var t) (Dual.const p_lumi) (Dual.const p_mu) (Dual.const p_uncorr_0) (Dual.const p_uncorr_1) (Dual.const p_stat_SR_0) (Dual.const p_stat_SR_1))
           (fun t => Gen.shapeB_bin0 realPrim s0 s1 es0 es1 b0 b1 u0 u1 eb0 eb1 hl0 hl1 hh0 hh1 t p_lumi p_mu p_uncorr_0 p_uncorr_1 p_stat_SR_0 p_stat_SR_1) p_sysH :=
  shapeB_bin0_lift dual_var (dual_const _) (dual_const _) (dual_const _) (dual_const _) h0 h1 hm

theorem shapeB_bin0_dual_p_lumi (s0 s1 es0 es1 b0 b1 u0 u1 eb0 eb1 hl0 hl1 hh0 hh1 p_sysH p_lumi p_mu p_uncorr_0 p_uncorr_1 p_stat_SR_0 p_stat_SR_1 : ℝ) (h0 : p_sysH ≠ 0) (h1 : p_sysH ≠ 1) (hm : p_sysH ≠ -1) :
    IsLift (fun t => Gen.shapeB_bin0 (Dual.prim realPrim) (Dual.const s0) (Dual.const s1) (Dual.const es0) (Dual.const es1) (Dual.const b0) (Dual.const b1) (Dual.const u0) (Dual.const u1) (Dual.const eb0) (Dual.const eb1) (Dual.const hl0) (Dual.const hl1) (Dual.const hh0) (Dual.const hh1) (Dual.const p_sysH) (Dual.var t) (Dual.const p_mu) (Dual.const p_uncorr_0) (Dual.const p_uncorr_1) (Dual.const p_stat_SR_0) (Dual.const p_stat_SR_1))
           (fun t => Gen.shapeB_bin0 realPrim s0 s1 es0 es1 b0 b1 u0 u1 eb0 eb1 hl0 hl1 hh0 hh1 p_sysH t p_mu p_uncorr_0 p_uncorr_1 p_stat_SR_0 p_stat_SR_1) p_lumi :=
  shapeB_bin0_lift (dual_const _) dual_var (dual_const _) (dual_const _) (dual_const _) h0 h1 hm

theorem shapeB_bin0_dual_p_mu (s0 s1 es0 es1 b0 b1 u0 u1 eb0 eb1 hl0 hl1 hh0 hh1 p_sysH p_lumi p_mu p_uncorr_0 p_uncorr_1 p_stat_SR_0 p_stat_SR_1 : ℝ) (h0 : p_sysH ≠ 0) (h1 : p_sysH ≠ 1) (hm : p_sysH ≠ -1) :
    IsLift (fun t => Gen.shapeB_bin0 (Dual.prim realPrim) (Dual.const s0) (Dual.const s1) (Dual.const es0) (Dual.const es1) (Dual.const b0) (Dual.const b1) (Dual.const u0) (Dual.const u1) (Dual.const eb0) (Dual.const eb1) (Dual.const hl0) (Dual.const hl1) (Dual.const hh0) (Dual.const hh1) (Dual.const p_sysH) (Dual.const p_lumi) (Dual.var t) (Dual.const p_uncorr_0) (Dual.const p_uncorr_1) (Dual.const p_stat_SR_0) (Dual.const p_stat_SR_1))
           (fun t => Gen.shapeB_bin0 realPrim s0 s1 es0 es1 b0 b1 u0 u1 eb0 eb1 hl0 hl1 hh0 hh1 p_sysH p_lumi t p_uncorr_0 p_uncorr_1 p_stat_SR_0 p_stat_SR_1) p_mu :=
  shapeB_bin0_lift (dual_const _) (dual_const _) dual_var (dual_const _) (dual_const _) h0 h1 hm

theorem shapeB_bin0_dual_p_uncorr_0 (s0 s1 es0 es1 b0 b1 u0 u1 eb0 eb1 hl0 hl1 hh0 hh1 p_sysH p_lumi p_mu p_uncorr_0 p_uncorr_1 p_stat_SR_0 p_stat_SR_1 : ℝ) (h0 : p_sysH ≠ 0) (h1 : p_sysH ≠ 1) (hm : p_sysH ≠ -1) :
    IsLift (fun t => Gen.shapeB_bin0 (Dual.prim realPrim) (Dual.const s0) (Dual.const s1) (Dual.const es0) (Dual.const es1) (Dual.const b0) (Dual.const b1) (Dual.const u0) (Dual.const u1) (Dual.const eb0) (Dual.const eb1) (Dual.const hl0) (Dual.const hl1) (Dual.const hh0) (Dual.const hh1) (Dual.const p_sysH) (Dual.const p_lumi) (Dual.const p_mu) (Dual.var t) (Dual.const p_uncorr_1) (Dual.const p_stat_SR_0) (Dual.const p_stat_SR_1))
           (fun t => Gen.shapeB_bin0 realPrim s0 s1 es0 es1 b0 b1 u0 u1 eb0 eb1 hl0 hl1 hh0 hh1 p_sysH p_lumi p_mu t p_uncorr_1 p_stat_SR_0 p_stat_SR_1) p_uncorr_0 :=
  shapeB_bin0_lift (dual_const _) (dual_const _) (dual_const _) dual_var (dual_const _) h0 h1 hm

theorem shapeB_bin0_dual_p_uncorr_1 (s0 s1 es0 es1 b0 b1 u0 u1 eb0 eb1 hl0 hl1 hh0 hh1 p_sysH p_lumi p_mu p_uncorr_0 p_uncorr_1 p_stat_SR_0 p_stat_SR_1 : ℝ) (h0 : p_sysH ≠ 0) (h1 : p_sysH ≠ 1) (hm : p_sysH ≠ -1) :
    IsLift (fun t => Gen.shapeB_bin0 (Dual.prim realPrim) (Dual.const s0) (Dual.const s1) (Dual.const es0) (Dual.const es1) (Dual.const b0) (Dual.const b1) (Dual.const u0) (Dual.const u1) (Dual.const eb0) (Dual.const eb1) (Dual.const hl0) (Dual.const hl1) (Dual.const hh0) (Dual.const hh1) (Dual.const p_sysH) (Dual.const p_lumi) (Dual.const p_mu) (Dual.const p_uncorr_0) (Dual.var t) (Dual.const p_stat_SR_0) (Dual.const p_stat_SR_1))
           (fun t => Gen.shapeB_bin0 realPrim s0 s1 es0 es1 b0 b1 u0 u1 eb0 eb1 hl0 hl1 hh0 hh1 p_sysH p_lumi p_mu p_uncorr_0 t p_stat_SR_0 p_stat_SR_1) p_uncorr_1 :=
  shapeB_bin0_lift (dual_const _) (dual_const _) (dual_const _) (dual_const _) (dual_const _) h0 h1 hm

theorem shapeB_bin0_dual_p_stat_SR_0 (s0 s1 es0 es1 b0 b1 u0 u1 eb0 eb1 hl0 hl1 hh0 hh1 p_sysH p_lumi p_mu p_uncorr_0 p_uncorr_1 p_stat_SR_0 p_stat_SR_1 : ℝ) (h0 : p_sysH ≠ 0) (h1 : p_sysH ≠ 1) (hm : p_sysH ≠ -1) :
    IsLift (fun t => Gen.shapeB_bin0 (Dual.prim realPrim) (Dual.const s0) (Dual.const s1) (Dual.const es0) (Dual.const es1) (Dual.const b0) (Dual.const b1) (Dual.const u0) (Dual.const u1) (Dual.const eb0) (Dual.const eb1) (Dual.const hl0) (Dual.const hl1) (Dual.const hh0) (Dual.const hh1) (Dual.const p_sysH) (Dual.const p_lumi) (Dual.const p_mu) (Dual.const p_uncorr_0) (Dual.const p_uncorr_1) (Dual.var t) (Dual.const p_stat_SR_1))
           (fun t => Gen.shapeB_bin0 realPrim s0 s1 es0 es1 b0 b1 u0 u1 eb0 eb1 hl0 hl1 hh0 hh1 p_sysH p_lumi p_mu p_uncorr_0 p_uncorr_1 t p_stat_SR_1) p_stat_SR_0 :=
  shapeB_bin0_lift (dual_const _) (dual_const _) (dual_const _) (dual_const _) dual_var h0 h1 hm

theorem shapeB_bin0_dual_p_stat_SR_1 (s0 s1 es0 es1 b0 b1 u0 u1 eb0 eb1 hl0 hl1 hh0 hh1 p_sysH p_lumi p_mu p_uncorr_0 p_uncorr_1 p_stat_SR_0 p_stat_SR_1 : ℝ) (h0 : p_sysH ≠ 0) (h1 : p_sysH ≠ 1) (hm : p_sysH ≠ -1) :
    IsLift (fun t => Gen.shapeB_bin0 (Dual.prim realPrim) (Dual.const s0) (Dual.const s1) (Dual.const es0) (Dual.const es1) (Dual.const b0) (Dual.const b1) (Dual.const u0) (Dual.const u1) (Dual.const eb0) (Dual.const eb1) (Dual.const hl0) (Dual.const hl1) (Dual.const hh0) (Dual.const hh1) (Dual.const p_sysH) (Dual.const p_lumi) (Dual.const p_mu) (Dual.const p_uncorr_0) (Dual.const p_uncorr_1) (Dual.const p_stat_SR_0) (Dual.var t))
           (fun t => Gen.shapeB_bin0 realPrim s0 s1 es0 es1 b0 b1 u0 u1 eb0 eb1 hl0 hl1 hh0 hh1 p_sysH p_lumi p_mu p_uncorr_0 p_uncorr_1 p_stat_SR_0 t) p_stat_SR_1 :=
  shapeB_bin0_lift (dual_const _) (dual_const _) (dual_const _) (dual_const _) (dual_const _) h0 h1 hm

/-- the same for bin 1 (here the two bin-wise parameters of bin 0 may be anything), followed by its seven partial derivatives -/
theorem shapeB_bin1_lift {H L M U0 U1 S0 S1 : ℝ → Dual ℝ} {h l m u0' u1' st0 st1 : ℝ → ℝ} {x : ℝ}
    (hH : IsLift H h x) (hL : IsLift L l x) (hM : IsLift M m x) (hU1 : IsLift U1 u1' x) (hS1 : IsLift S1 st1 x)
    {s0 s1 es0 es1 b0 b1 u0 u1 eb0 eb1 hl0 hl1 hh0 hh1 : ℝ} (h0 : h x ≠ 0) (h1 : h x ≠ 1) (hm : h x ≠ -1) :
    IsLift (fun t => Gen.shapeB_bin1 (Dual.prim realPrim) (Dual.const s0) (Dual.const s1) (Dual.const es0) (Dual.const es1) (Dual.const b0) (Dual.const b1) (Dual.const u0) (Dual.const u1) (Dual.const eb0) (Dual.const eb1) (Dual.const hl0) (Dual.const hl1) (Dual.const hh0) (Dual.const hh1) (H t) (L t) (M t) (U0 t) (U1 t) (S0 t) (S1 t))
           (fun t => Gen.shapeB_bin1 realPrim s0 s1 es0 es1 b0 b1 u0 u1 eb0 eb1 hl0 hl1 hh0 hh1 (h t) (l t) (m t) (u0' t) (u1' t) (st0 t) (st1 t)) x := by
  unfold Gen.shapeB_bin1
  lift_all
  all_goals rw [sci_1]
  exacts [hm, hm, h1.symm]

theorem shapeB_bin1_dual_p_sysH (s0 s1 es0 es1 b0 b1 u0 u1 eb0 eb1 hl0 hl1 hh0 hh1 p_sysH p_lumi p_mu p_uncorr_0 p_uncorr_1 p_stat_SR_0 p_stat_SR_1 : ℝ) (h0 : p_sysH ≠ 0) (h1 : p_sysH ≠ 1) (hm : p_sysH ≠ -1) :
    IsLift (fun t => Gen.shapeB_bin1 (Dual.prim realPrim) (Dual.const s0) (Dual.const s1) (Dual.const es0) (Dual.const es1) (Dual.const b0) (Dual.const b1) (Dual.const u0) (Dual.const u1) (Dual.const eb0) (Dual.const eb1) (Dual.const hl0) (Dual.const hl1) (Dual.const hh0) (Dual.const hh1) (Dual.var t) (Dual.const p_lumi) (Dual.const p_mu) (Dual.const p_uncorr_0) (Dual.const p_uncorr_1) (Dual.const p_stat_SR_0) (Dual.const p_stat_SR_1))
           (fun t => Gen.shapeB_bin1 realPrim s0 s1 es0 es1 b0 b1 u0 u1 eb0 eb1 hl0 hl1 hh0 hh1 t p_lumi p_mu p_uncorr_0 p_uncorr_1 p_stat_SR_0 p_stat_SR_1) p_sysH :=
  shapeB_bin1_lift dual_var (dual_const _) (dual_const _) (dual_const _) (dual_const _) h0 h1 hm

theorem shapeB_bin1_dual_p_lumi (s0 s1 es0 es1 b0 b1 u0 u1 eb0 eb1 hl0 hl1 hh0 hh1 p_sysH p_lumi p_mu p_uncorr_0 p_uncorr_1 p_stat_SR_0 p_stat_SR_1 : ℝ) (h0 : p_sysH ≠ 0) (h1 : p_sysH ≠ 1) (hm : p_sysH ≠ -1) :
    IsLift (fun t => Gen.shapeB_bin1 (Dual.prim realPrim) (Dual.const s0) (Dual.const s1) (Dual.const es0) (Dual.const es1) (Dual.const b0) (Dual.const b1) (Dual.const u0) (Dual.const u1) (Dual.const eb0) (Dual.const eb1) (Dual.const hl0) (Dual.const hl1) (Dual.const hh0) (Dual.const hh1) (Dual.const p_sysH) (Dual.var t) (Dual.const p_mu) (Dual.const p_uncorr_0) (Dual.const p_uncorr_1) (Dual.const p_stat_SR_0) (Dual.const p_stat_SR_1))
           (fun t => Gen.shapeB_bin1 realPrim s0 s1 es0 es1 b0 b1 u0 u1 eb0 eb1 hl0 hl1 hh0 hh1 p_sysH t p_mu p_uncorr_0 p_uncorr_1 p_stat_SR_0 p_stat_SR_1) p_lumi :=
  shapeB_bin1_lift (dual_const _) dual_var (dual_const _) (dual_const _) (dual_const _) h0 h1 hm

theorem shapeB_bin1_dual_p_mu (s0 s1 es0 es1 b0 b1 u0 u1 eb0 eb1 hl0 hl1 hh0 hh1 p_sysH p_lumi p_mu p_uncorr_0 p_uncorr_1 p_stat_SR_0 p_stat_SR_1 : ℝ) (h0 : p_sysH ≠ 0) (h1 : p_sysH ≠ 1) (hm : p_sysH ≠ -1) :
    IsLift (fun t => Gen.shapeB_bin1 (Dual.prim realPrim) (Dual.const s0) (Dual.const s1) (Dual.const es0) (Dual.const es1) (Dual.const b0) (Dual.const b1) (Dual.const u0) (Dual.const u1) (Dual.const eb0) (Dual.const eb1) (Dual.const hl0) (Dual.const hl1) (Dual.const hh0) (Dual.const hh1) (Dual.const p_sysH) (Dual.const p_lumi) (Dual.var t) (Dual.const p_uncorr_0) (Dual.const p_uncorr_1) (Dual.const p_stat_SR_0) (Dual.const p_stat_SR_1))
           (fun t => Gen.shapeB_bin1 realPrim s0 s1 es0 es1 b0 b1 u0 u1 eb0 eb1 hl0 hl1 hh0 hh1 p_sysH p_lumi t p_uncorr_0 p_uncorr_1 p_stat_SR_0 p_stat_SR_1) p_mu :=
  shapeB_bin1_lift (dual_const _) (dual_const _) dual_var (dual_const _) (dual_const _) h0 h1 hm

theorem shapeB_bin1_dual_p_uncorr_0 (s0 s1 es0 es1 b0 b1 u0 u1 eb0 eb1 hl0 hl1 hh0 hh1 p_sysH p_lumi p_mu p_uncorr_0 p_uncorr_1 p_stat_SR_0 p_stat_SR_1 : ℝ) (h0 : p_sysH ≠ 0) (h1 : p_sysH ≠ 1) (hm : p_sysH ≠ -1) :
    IsLift (fun t => Gen.shapeB_bin1 (Dual.prim realPrim) (Dual.const s0) (Dual.const s1) (Dual.const es0) (Dual.const es1) (Dual.const b0) (Dual.const b1) (Dual.const u0) (Dual.const u1) (Dual.const eb0) (Dual.const eb1) (Dual.const hl0) (Dual.const hl1) (Dual.const hh0) (Dual.const hh1) (Dual.const p_sysH) (Dual.const p_lumi) (Dual.const p_mu) (Dual.var t) (Dual.const p_uncorr_1) (Dual.const p_stat_SR_0) (Dual.const p_stat_SR_1))
           (fun t => Gen.shapeB_bin1 realPrim s0 s1 es0 es1 b0 b1 u0 u1 eb0 eb1 hl0 hl1 hh0 hh1 p_sysH p_lumi p_mu t p_uncorr_1 p_stat_SR_0 p_stat_SR_1) p_uncorr_0 :=
  shapeB_bin1_lift (dual_const _) (dual_const _) (dual_const _) (dual_const _) (dual_const _) h0 h1 hm

theorem shapeB_bin1_dual_p_uncorr_1 (s0 s1 es0 es1 b0 b1 u0 u1 eb0 eb1 hl0 hl1 hh0 hh1 p_sysH p_lumi p_mu p_uncorr_0 p_uncorr_1 p_stat_SR_0 p_stat_SR_1 : ℝ) (h0 : p_sysH ≠ 0) (h1 : p_sysH ≠ 1) (hm : p_sysH ≠ -1) :
    IsLift (fun t => Gen.shapeB_bin1 (Dual.prim realPrim) (Dual.const s0) (Dual.const s1) (Dual.const es0) (Dual.const es1) (Dual.const b0) (Dual.const b1) (Dual.const u0) (Dual.const u1) (Dual.const eb0) (Dual.const eb1) (Dual.const hl0) (Dual.const hl1) (Dual.const hh0) (Dual.const hh1) (Dual.const p_sysH) (Dual.const p_lumi) (Dual.const p_mu) (Dual.const p_uncorr_0) (Dual.var t) (Dual.const p_stat_SR_0) (Dual.const p_stat_SR_1))
           (fun t => Gen.shapeB_bin1 realPrim s0 s1 es0 es1 b0 b1 u0 u1 eb0 eb1 hl0 hl1 hh0 hh1 p_sysH p_lumi p_mu p_uncorr_0 t p_stat_SR_0 p_stat_SR_1) p_uncorr_1 :=
  shapeB_bin1_lift (dual_const _) (dual_const _) (dual_const _) dual_var (dual_const _) h0 h1 hm

theorem shapeB_bin1_dual_p_stat_SR_0 (s0 s1 es0 es1 b0 b1 u0 u1 eb0 eb1 hl0 hl1 hh0 hh1 p_sysH p_lumi p_mu p_uncorr_0 p_uncorr_1 p_stat_SR_0 p_stat_SR_1 : ℝ) (h0 : p_sysH ≠ 0) (h1 : p_sysH ≠ 1) (hm : p_sysH ≠ -1) :
    IsLift (fun t => Gen.shapeB_bin1 (Dual.prim realPrim) (Dual.const s0) (Dual.const s1) (Dual.const es0) (Dual.const es1) (Dual.const b0) (Dual.const b1) (Dual.const u0) (Dual.const u1) (Dual.const eb0) (Dual.const eb1) (Dual.const hl0) (Dual.const hl1) (Dual.const hh0) (Dual.const hh1) (Dual.const p_sysH) (Dual.const p_lumi) (Dual.const p_mu) (Dual.const p_uncorr_0) (Dual.const p_uncorr_1) (Dual.var t) (Dual.const p_stat_SR_1))
           (fun t => Gen.shapeB_bin1 realPrim s0 s1 es0 es1 b0 b1 u0 u1 eb0 eb1 hl0 hl1 hh0 hh1 p_sysH p_lumi p_mu p_uncorr_0 p_uncorr_1 t p_stat_SR_1) p_stat_SR_0 :=
  shapeB_bin1_lift (dual_const _) (dual_const _) (dual_const _) (dual_const _) (dual_const _) h0 h1 hm

theorem shapeB_bin1_dual_p_stat_SR_1 (s0 s1 es0 es1 b0 b1 u0 u1 eb0 eb1 hl0 hl1 hh0 hh1 p_sysH p_lumi p_mu p_uncorr_0 p_uncorr_1 p_stat_SR_0 p_stat_SR_1 : ℝ) (h0 : p_sysH ≠ 0) (h1 : p_sysH ≠ 1) (hm : p_sysH ≠ -1) :
    IsLift (fun t => Gen.shapeB_bin1 (Dual.prim realPrim) (Dual.const s0) (Dual.const s1) (Dual.const es0) (Dual.const es1) (Dual.const b0) (Dual.const b1) (Dual.const u0) (Dual.const u1) (Dual.const eb0) (Dual.const eb1) (Dual.const hl0) (Dual.const hl1) (Dual.const hh0) (Dual.const hh1) (Dual.const p_sysH) (Dual.const p_lumi) (Dual.const p_mu) (Dual.const p_uncorr_0) (Dual.const p_uncorr_1) (Dual.const p_stat_SR_0) (Dual.var t))
           (fun t => Gen.shapeB_bin1 realPrim s0 s1 es0 es1 b0 b1 u0 u1 eb0 eb1 hl0 hl1 hh0 hh1 p_sysH p_lumi p_mu p_uncorr_0 p_uncorr_1 p_stat_SR_0 t) p_stat_SR_1 :=
  shapeB_bin1_lift (dual_const _) (dual_const _) (dual_const _) (dual_const _) dual_var h0 h1 hm

/-- in words: the derivative the reference computes for the signal strength is `HasDerivAt` of the code's log-likelihood -/
theorem shapeF_reference_gradient_mu (s0 s1 es0 es1 b0 b1 u0 u1 eb0 eb1 p_mu p_uncorr_0 p_uncorr_1 p_stat_SR_0 p_stat_SR_1 d0 d1 a0 a1 a2 a3 : ℝ) (hs0 : 0 < s0) (hs1 : 0 < s1) (hes0 : 0 < es0) (hes1 : 0 < es1) (hb0 : 0 < b0) (hb1 : 0 < b1) (hu0 : 0 < u0) (hu1 : 0 < u1) (heb0 : 0 < eb0) (heb1 : 0 < eb1) (hp_mu : 0 < p_mu) (hp_uncorr_0 : 0 < p_uncorr_0) (hp_uncorr_1 : 0 < p_uncorr_1) (hp_stat_SR_0 : 0 < p_stat_SR_0) (hp_stat_SR_1 : 0 < p_stat_SR_1) :
    HasDerivAt (fun t => Gen.shapeF_logpdf realPrim (Gen.np_poisson_logpdf realPrim (xlogy realPrim) lgammaR) (Gen.np_normal_logpdf realPrim Real.pi)
                  s0 s1 es0 es1 b0 b1 u0 u1 eb0 eb1 t p_uncorr_0 p_uncorr_1 p_stat_SR_0 p_stat_SR_1 d0 d1 a0 a1 a2 a3)
      (Gen.shapeF_logpdf (Dual.prim realPrim) (Gen.np_poisson_logpdf (Dual.prim realPrim) xlogyD lgammaD) (Gen.np_normal_logpdf (Dual.prim realPrim) (Dual.const Real.pi))
          (Dual.const s0) (Dual.const s1) (Dual.const es0) (Dual.const es1) (Dual.const b0) (Dual.const b1) (Dual.const u0) (Dual.const u1) (Dual.const eb0) (Dual.const eb1)
          (Dual.var p_mu) (Dual.const p_uncorr_0) (Dual.const p_uncorr_1) (Dual.const p_stat_SR_0) (Dual.const p_stat_SR_1)
          (Dual.const d0) (Dual.const d1) (Dual.const a0) (Dual.const a1) (Dual.const a2) (Dual.const a3)).d p_mu :=
  (shapeF_logpdf_dual_p_mu s0 s1 es0 es1 b0 b1 u0 u1 eb0 eb1 p_mu p_uncorr_0 p_uncorr_1 p_stat_SR_0 p_stat_SR_1 d0 d1 a0 a1 a2 a3
    hs0 hs1 hes0 hes1 hb0 hb1 hu0 hu1 heb0 heb1 hp_mu hp_uncorr_0 hp_uncorr_1 hp_stat_SR_0 hp_stat_SR_1).2

end Pyhf.Props.C13
