import PyhfProofs.Lemmas.Logpdf
import PyhfProofs.Lemmas.Argsort
/-!
# C02 — the log-likelihood is exactly the HistFactory template

`logpdfT` is the code path (`Model.logpdf`: split the data vector with the `[main, aux]` viewer, Poisson
terms bin by bin, split the auxiliary data with the `[normal, poisson]` viewer and pair each group with the
gathered parameters).  `D.logpdf` is the template: `Σ_b lpois(d_b | ν_b)` plus exactly one constraint term per
constrained parameter component, `lnorm(a_k | θ_{p,i}, σ_{p,i})` or `lpois(a_k | θ_{p,i}·τ_{p,i})`, the datum `a_k`
taken at the position the configuration assigns to component `i` of paramset `p`.
The two log-density primitives are parameters (their exactness is C04).
-/
namespace Pyhf.Props.C02

/-- all hypotheses of the C01/C02 theorems that construction does not itself check (decidable; evaluated
on every generated spec by the harness) -/
structure WFExtra (s : Spec ℝ) (m : Model ℝ) : Prop where
  binwise : binwiseOK m = true
  lumi : singleLumi m = true
  covers : singularCovers m = true
  clip : clipSampleNonPos m = true
  paramsets : paramsetsOK m = true

/-- **Main theorem**: for every accepted spec, parameter vector and dataset (main and auxiliary data of
any values), the log-density computed by the code path equals the template sum. -/
theorem C02_logpdf_eq_template (L : LogPrim ℝ) (s : Spec ℝ) (st : Settings ℝ) (m : Model ℝ)
    (hbuild : buildModel realPrim s st = .ok m) (hwf : WFExtra s m) (θ data : List ℝ)
    (hlen : data.length = m.cfg.nmain + (auxData m.ps).length) :
    logpdfT realPrim L m (parOf θ) data = D.logpdf realPrim L m (parOf θ) data := by
  have hs := shape_of_build hbuild
  have hperm := logpdfTerms_perm_template m hs ⟨hwf.binwise, hwf.lumi, hwf.covers, hwf.clip⟩ hwf.paramsets
    (parOf θ) data hlen
  unfold logpdfT D.logpdf
  rw [sumK_real, sumK_real]
  exact (hperm.map _).sum_eq

/-- **Exactly one constraint term per constrained component, at its own position**: the positions of the
auxiliary data used by the constraint terms are `0, 1, …, nauxdata−1`, each exactly once, in the order of
`config.auxdata_order`. -/
theorem C02_aux_partition (m : Model ℝ) (hp : paramsetsOK m = true) (par : Nat → ℝ) :
    (constraintTerms m par).map (·.auxIdx) = List.range (auxData m.ps).length := by
  have h := ct_go_positions m par (m.ps.filter (·.constrained)) 0 (fun p hp' => (List.mem_filter.mp hp').2)
  have hn := naux_eq_terms m hp par
  unfold constraintTerms at hn ⊢
  rw [h, hn, ct_go_length m par _ 0 (fun p hp' => (List.mem_filter.mp hp').2), List.range_eq_range']

/-- the normal and poisson index groups handed to the constraint viewer partition the auxiliary positions -/
theorem C02_groups_partition (m : Model ℝ) (hp : paramsetsOK m = true) (par : Nat → ℝ) :
    (normalData m par ++ poissonData m par).Perm (List.range (auxData m.ps).length) := by
  rw [← C02_aux_partition m hp par]
  unfold normalData poissonData
  rw [← List.map_append]
  exact (filter_kind_perm _).map _

/-- **main-only + constraint-only = full** -/
theorem C02_main_plus_constraint (L : LogPrim ℝ) (s : Spec ℝ) (st : Settings ℝ) (m : Model ℝ)
    (hbuild : buildModel realPrim s st = .ok m) (hwf : WFExtra s m) (θ data : List ℝ)
    (hlen : data.length = m.cfg.nmain + (auxData m.ps).length) (hne : (constraintTerms m (parOf θ)).isEmpty = false) :
    mainLogpdfT realPrim L m (parOf θ) (data.take m.cfg.nmain)
      + constraintLogpdfT L m (parOf θ) (data.drop m.cfg.nmain)
      = logpdfT realPrim L m (parOf θ) data := by
  unfold mainLogpdfT constraintLogpdfT logpdfT logpdfTerms
  simp only [hne, Bool.false_eq_true, if_false, List.singleton_append]
  rw [split_two 0 _ _ _ hlen]
  simp only [List.getD_cons_zero, List.getD_cons_succ, sumK_real, List.map_append, List.sum_append, List.map_map,
    Function.comp_def, termLog]
  ring

/-- **Unit-width Gaussians** for parameter sets without widths (correlated-shape and normalisation
systematics): the width of every component's term is `1`. -/
theorem C02_unit_gaussians (m : Model ℝ) (par : Nat → ℝ) (aux : List ℝ) (p : Paramset ℝ) (start : Nat)
    (hn : p.ptype = .normal) (hs : p.sigmas = none) :
    ∀ q ∈ D.paramsetTerms m par aux p start, q.1 = CKind.normal ∧ q.2.2.2 = 1 := by
  intro q hq
  unfold D.paramsetTerms at hq
  simp only [hn, hs, Option.getD_none, List.mem_map, List.mem_range] at hq
  obtain ⟨i, hi, rfl⟩ := hq
  simp [List.getD_eq_getElem?_getD, hi]

/-- measurement-level widths and auxiliary data enter the terms verbatim -/
theorem C02_overrides_enter_terms (m : Model ℝ) (par : Nat → ℝ) (aux : List ℝ) (p : Paramset ℝ) (start : Nat)
    (hn : p.ptype = .normal) (sig : List ℝ) (hs : p.sigmas = some sig) (i : Nat) (hi : i < p.n) :
    (CKind.normal, aux.getD (start + i) 0, byName m par p.name i, sig.getD i 1) ∈ D.paramsetTerms m par aux p start := by
  unfold D.paramsetTerms
  simp only [hn, hs, Option.getD_some, List.mem_map, List.mem_range]
  exact ⟨i, hi, rfl⟩

/-- Poisson constraint of uncorrelated shape: rate `γ_b · τ_b` -/
theorem C02_poisson_terms (m : Model ℝ) (par : Nat → ℝ) (aux : List ℝ) (p : Paramset ℝ) (start : Nat)
    (hn : p.ptype = .poisson) (i : Nat) (hi : i < p.n) :
    (CKind.poisson, aux.getD (start + i) 0, byName m par p.name i * p.factors.getD i 1, (1 : ℝ))
      ∈ D.paramsetTerms m par aux p start := by
  unfold D.paramsetTerms
  simp only [hn, List.mem_map, List.mem_range]
  exact ⟨i, hi, rfl⟩

/-- `τ_b = (nominal_b / uncertainty_b)²` on valid bins (nominal and uncertainty both positive), `1` on the others (which `reqShapesys`
holds fixed) -/
theorem C02_tau_shapesys (sd md : List ℝ) :
    (reqShapesys realPrim sd md).factors =
      .val ((sd.zip md).map fun (x : ℝ × ℝ) => if 0 < x.2 ∧ 0 < x.1 then (x.1 / x.2) ^ 2 else 1) := by
  unfold reqShapesys
  simp only [realPrim_pow, sci_2]
  congr 1
  rw [← List.map_prod_left_eq_zip, List.map_map]
  apply List.map_congr_left
  intro x _
  obtain ⟨a, b⟩ := x
  simp only [Function.comp, Bool.and_eq_true, decide_eq_true_eq]
  by_cases h : 0 < b ∧ 0 < a
  · simp only [h, and_self, if_true, Real.rpow_two, div_pow]
  · simp only [h, if_false]

/-- **`expected_auxdata`**: the stitched vector of normal means and Poisson rates carries, at auxiliary position `k`,
the mean (`θ_{p,i}`) resp. rate (`θ_{p,i}·τ_{p,i}`) of the constraint term that reads the auxiliary datum at position `k` —
the `[normal, poisson]` viewer's argsort stitch undoes the grouping by constraint type. -/
theorem C02_expected_auxdata (m : Model ℝ) (hp : paramsetsOK m = true) (par : Nat → ℝ) :
    expectedAux m par = (constraintTerms m par).map (·.loc) := by
  have htv := constraintsTV_eq m par
  unfold normalData poissonData at htv
  exact stitch_eq_map (constraintsTV m) 0 _ _ (constraintTerms m par) (·.auxIdx) (·.loc)
    (by rw [htv, flatten_opt2, ← List.map_append]) (by rw [flatten_opt2, ← List.map_append]) (filter_kind_perm _)
    (by rw [C02_aux_partition m hp par, naux_eq_terms m hp par])

end Pyhf.Props.C02
