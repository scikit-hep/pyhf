import PyhfModel.Dual
import PyhfProofs.Lemmas.DualLift
import PyhfProofs.Lemmas.RealPrim
import Mathlib.Analysis.SpecialFunctions.Pow.Deriv
import Mathlib.Analysis.SpecialFunctions.Sqrt
import Mathlib.Analysis.Calculus.Deriv.Inv
/-!
# C13 — gradients handed to optimisers are the true gradient  (the reference gradient)

Autodiff engines are external.  What is proved: every arithmetic primitive of the model, evaluated on dual
numbers, carries the true derivative (`HasDerivAt`), so the model instantiated at `Dual` — the oracle the engines are
compared with — computes true derivatives wherever it is built from these primitives away from selection
breakpoints.  (The closure under composition for the *whole* generic model is a parametricity argument Lean does not
give for free; it is not claimed.)
-/
namespace Pyhf.Props.C13

variable {F G : ℝ → Dual ℝ} {f g : ℝ → ℝ} {x : ℝ}

theorem dual_const (c : ℝ) : IsLift (fun _ => Dual.const c) (fun _ => c) x := ⟨rfl, hasDerivAt_const x c⟩
theorem dual_var : IsLift (fun t => Dual.var t) (fun t => t) x := ⟨rfl, hasDerivAt_id' x⟩

theorem dual_add (hF : IsLift F f x) (hG : IsLift G g x) : IsLift (fun t => F t + G t) (fun t => f t + g t) x := by
  obtain ⟨d, hF, hd⟩ := hF.exists_eq
  obtain ⟨d', hG, hd'⟩ := hG.exists_eq
  exact .of_eq (hd.add hd') (by rw [hF, hG]; rfl)

theorem dual_sub (hF : IsLift F f x) (hG : IsLift G g x) : IsLift (fun t => F t - G t) (fun t => f t - g t) x := by
  obtain ⟨d, hF, hd⟩ := hF.exists_eq
  obtain ⟨d', hG, hd'⟩ := hG.exists_eq
  exact .of_eq (hd.sub hd') (by rw [hF, hG]; rfl)

theorem dual_neg (hF : IsLift F f x) : IsLift (fun t => -F t) (fun t => -f t) x := by
  obtain ⟨d, hF, hd⟩ := hF.exists_eq
  exact .of_eq hd.neg (by rw [hF]; rfl)

theorem dual_mul (hF : IsLift F f x) (hG : IsLift G g x) : IsLift (fun t => F t * G t) (fun t => f t * g t) x := by
  obtain ⟨d, hF, hd⟩ := hF.exists_eq
  obtain ⟨d', hG, hd'⟩ := hG.exists_eq
  exact .of_eq (hd.mul hd') (by rw [hF, hG]; rfl)

theorem dual_div (hF : IsLift F f x) (hG : IsLift G g x) (hg : g x ≠ 0) : IsLift (fun t => F t / G t) (fun t => f t / g t) x := by
  obtain ⟨d, hF, hd⟩ := hF.exists_eq
  obtain ⟨d', hG, hd'⟩ := hG.exists_eq
  exact .of_eq ((hd.div hd' hg).congr_deriv (by rw [sq])) (by rw [hF, hG]; rfl)

theorem dual_log (hF : IsLift F f x) (hf : f x ≠ 0) :
    IsLift (fun t => (Dual.prim realPrim).log (F t)) (fun t => Real.log (f t)) x := by
  obtain ⟨d, hF, hd⟩ := hF.exists_eq
  exact .of_eq (hd.log hf) (by rw [hF]; rfl)

theorem dual_exp (hF : IsLift F f x) :
    IsLift (fun t => (Dual.prim realPrim).exp (F t)) (fun t => Real.exp (f t)) x := by
  obtain ⟨d, hF, hd⟩ := hF.exists_eq
  exact .of_eq (hd.exp.congr_deriv (mul_comm _ _)) (by rw [hF]; rfl)

theorem dual_sqrt (hF : IsLift F f x) (hf : f x ≠ 0) :
    IsLift (fun t => (Dual.prim realPrim).sqrt (F t)) (fun t => Real.sqrt (f t)) x := by
  obtain ⟨d, hF, hd⟩ := hF.exists_eq
  exact .of_eq (hd.sqrt hf) (by rw [hF, ← sci_2]; rfl)

/-- power with the parameter in the base **and** in the exponent (interpolation codes 1 and 4) -/
theorem dual_rpow (hF : IsLift F f x) (hG : IsLift G g x) (hf : 0 < f x) :
    IsLift (fun t => (Dual.prim realPrim).pow (F t) (G t)) (fun t => f t ^ g t) x := by
  obtain ⟨d, hF, hd⟩ := hF.exists_eq
  obtain ⟨d', hG, hd'⟩ := hG.exists_eq
  refine .of_eq (d := f x ^ g x * (d' * Real.log (f x) + g x * d / f x))
    ((hd.rpow hd' hf).congr_deriv ?_) (by rw [hF, hG]; rfl)
  rw [Real.rpow_sub_one hf.ne']
  ring

/-- selection away from the breakpoint: the taken branch's lift is a lift of the piecewise function -/
theorem dual_select_lt (c : ℝ) {A B : ℝ → Dual ℝ} {a b : ℝ → ℝ} (hx : c < x) (hA : IsLift A a x) :
    IsLift (fun t => if c < t then A t else B t) (fun t => if c < t then a t else b t) x :=
  .ite Iff.rfl ((lt_mem_nhds hx).mono fun _ ht => iff_of_true ht hx) (fun _ => hA) (absurd hx)

theorem dual_select_ge (c : ℝ) {A B : ℝ → Dual ℝ} {a b : ℝ → ℝ} (hx : x < c) (hB : IsLift B b x) :
    IsLift (fun t => if c < t then A t else B t) (fun t => if c < t then a t else b t) x :=
  .ite Iff.rfl ((gt_mem_nhds hx).mono fun _ ht => iff_of_false ht.not_gt hx.not_gt)
    (fun h => absurd h hx.not_gt) (fun _ => hB)

/-- worked example: the rate of one bin with a signal strength and a bin-wise background factor, `μ·s + γ·b`,
differentiated along `μ` by dual numbers gives `s` -/
theorem single_bin_rate_dmu (s b γ μ : ℝ) :
    IsLift (fun t => Dual.var t * Dual.const s + Dual.const γ * Dual.const b) (fun t => t * s + γ * b) μ ∧
    ((fun t : ℝ => Dual.var t * Dual.const s + Dual.const γ * Dual.const b) μ).d = s := by
  refine ⟨dual_add (dual_mul dual_var (dual_const s)) (dual_mul (dual_const γ) (dual_const b)), ?_⟩
  show (1 * s + μ * 0) + (0 * b + γ * 0) = s
  ring

end Pyhf.Props.C13
