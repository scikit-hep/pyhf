import PyhfGen.Model
import PyhfProofs.Properties.C01_Gen2
import PyhfProofs.Properties.C02_Gen
/-!
# C02 (continued) — `Model.logpdf` = template on the shapes D, E (non-default interpolation codes), F, H (bin-wise constraints) of `PyhfGen/Model.lean`

In shape H the MC-statistical width of the second bin vanishes; the code then takes unit width, which the first `if` of the tree decides.
-/
namespace Pyhf.Props.C02

theorem shapeD_logpdf_eq (lpois : ℝ → ℝ → ℝ) (lnorm : ℝ → ℝ → ℝ → ℝ) (s0 s1 slo shi b0 b1 blo bhi hl0 hl1 hh0 hh1 p_sysH p_mu p_sysN d0 d1 a0 a1 : ℝ) (_hs0 : 0 < s0) (_hs1 : 0 < s1) (_hslo : 0 < slo) (_hshi : 0 < shi) (_hb0 : 0 < b0) (_hb1 : 0 < b1) (_hblo : 0 < blo) (_hbhi : 0 < bhi) (_hhl0 : 0 < hl0) (_hhl1 : 0 < hl1) (_hhh0 : 0 < hh0) (_hhh1 : 0 < hh1) :
    Gen.shapeD_logpdf realPrim lpois lnorm s0 s1 slo shi b0 b1 blo bhi hl0 hl1 hh0 hh1 p_sysH p_mu p_sysN d0 d1 a0 a1 = Gen.shapeD_logpdf_ref realPrim lpois lnorm s0 s1 slo shi b0 b1 blo bhi hl0 hl1 hh0 hh1 p_sysH p_mu p_sysN d0 d1 a0 a1 := by
  unfold Gen.shapeD_logpdf Gen.shapeD_logpdf_ref Gen.shapeD_bin0 Gen.shapeD_bin1
  by_cases h : 0 < p_sysH <;> by_cases k : 0 < p_sysN <;> simp only [gen_norm, h, k]

theorem shapeE_logpdf_eq (lpois : ℝ → ℝ → ℝ) (lnorm : ℝ → ℝ → ℝ → ℝ) (s0 b0 hl0 hh0 blo bhi p_sysH p_mu p_sysN d0 a0 a1 : ℝ) (_hs0 : 0 < s0) (_hb0 : 0 < b0) (_hhl0 : 0 < hl0) (_hhh0 : 0 < hh0) (_hblo : 0 < blo) (_hbhi : 0 < bhi) :
    Gen.shapeE_logpdf realPrim lpois lnorm s0 b0 hl0 hh0 blo bhi p_sysH p_mu p_sysN d0 a0 a1 = Gen.shapeE_logpdf_ref realPrim lpois lnorm s0 b0 hl0 hh0 blo bhi p_sysH p_mu p_sysN d0 a0 a1 := by
  unfold Gen.shapeE_logpdf Gen.shapeE_logpdf_ref Gen.shapeE_bin0
  rcases code4_regimes one_pos p_sysN with h | h | h <;> rcases code2_regimes p_sysH with k | k | k <;> simp only [gen_norm, h, k]

theorem shapeF_logpdf_eq (lpois : ℝ → ℝ → ℝ) (lnorm : ℝ → ℝ → ℝ → ℝ) (s0 s1 es0 es1 b0 b1 u0 u1 eb0 eb1 p_mu p_uncorr_0 p_uncorr_1 p_stat_SR_0 p_stat_SR_1 d0 d1 a0 a1 a2 a3 : ℝ) (_hs0 : 0 < s0) (_hs1 : 0 < s1) (_hes0 : 0 < es0) (_hes1 : 0 < es1) (_hb0 : 0 < b0) (_hb1 : 0 < b1) (_hu0 : 0 < u0) (_hu1 : 0 < u1) (_heb0 : 0 < eb0) (_heb1 : 0 < eb1) :
    Gen.shapeF_logpdf realPrim lpois lnorm s0 s1 es0 es1 b0 b1 u0 u1 eb0 eb1 p_mu p_uncorr_0 p_uncorr_1 p_stat_SR_0 p_stat_SR_1 d0 d1 a0 a1 a2 a3 = Gen.shapeF_logpdf_ref realPrim lpois lnorm s0 s1 es0 es1 b0 b1 u0 u1 eb0 eb1 p_mu p_uncorr_0 p_uncorr_1 p_stat_SR_0 p_stat_SR_1 d0 d1 a0 a1 a2 a3 := by
  unfold Gen.shapeF_logpdf Gen.shapeF_logpdf_ref Gen.shapeF_bin0 Gen.shapeF_bin1
  ring1

theorem shapeH_logpdf_eq (lpois : ℝ → ℝ → ℝ) (lnorm : ℝ → ℝ → ℝ → ℝ) (s0 s1 b0 b1 e0 p_lumi p_mu p_stat_SR_0 p_stat_SR_1 d0 d1 a0 a1 a2 : ℝ) (_hs0 : 0 < s0) (_hs1 : 0 < s1) (_hb0 : 0 < b0) (_hb1 : 0 < b1) (_he0 : 0 < e0) :
    Gen.shapeH_logpdf realPrim lpois lnorm s0 s1 b0 b1 e0 p_lumi p_mu p_stat_SR_0 p_stat_SR_1 d0 d1 a0 a1 a2 = Gen.shapeH_logpdf_ref realPrim lpois lnorm s0 s1 b0 b1 e0 p_lumi p_mu p_stat_SR_0 p_stat_SR_1 d0 d1 a0 a1 a2 := by
  unfold Gen.shapeH_logpdf Gen.shapeH_logpdf_ref Gen.shapeH_bin0 Gen.shapeH_bin1
  simp only [gen_norm, zero_div, ne_eq, OfNat.ofNat_ne_zero, not_false_eq_true, zero_pow, realPrim_sqrt, Real.sqrt_zero]

end Pyhf.Props.C02
