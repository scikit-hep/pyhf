import PyhfGen.Prob
import PyhfProofs.Properties.C04
/-!
# C04 (continued) — the identities hold of the compositions the backends write down *now*

`PyhfGen/Prob.lean` is regenerated on every C04 run from `/repo/src/pyhf/tensor/numpy_backend.py` and `jax_backend.py` by symbolic
execution of `poisson_logpdf`, `poisson` and `normal_logpdf` (`xlogy`, `gammaln` uninterpreted; `sqrt`, `log`, `exp`, `square`, `divide`
and `pi` of the array namespace symbolic).  The theorems below prove each generated composition equal, for all real arguments, to the
model `Pyhf.Prob` about which the identity and forward-error theorems of `C04.lean` are stated, and restate the identities for the
generated functions.  A change of the composed formula in either backend breaks one of these equalities.
-/
namespace Pyhf.Props.C04
open Pyhf.Prob

theorem gen_np_poisson_logpdf_eq (n lam : ℝ) :
    Gen.np_poisson_logpdf realPrim (xlogy realPrim) lgammaR n lam = poissonLogpdf realPrim lgammaR n lam := by
  unfold Gen.np_poisson_logpdf poissonLogpdf; rw [sci_1]

theorem gen_jax_poisson_logpdf_eq (n lam : ℝ) :
    Gen.jax_poisson_logpdf realPrim (xlogy realPrim) lgammaR n lam = poissonLogpdf realPrim lgammaR n lam := by
  unfold Gen.jax_poisson_logpdf poissonLogpdf; rw [sci_1]

theorem gen_np_poisson_eq (n lam : ℝ) :
    Gen.np_poisson realPrim (xlogy realPrim) lgammaR n lam = poissonPdf realPrim lgammaR n lam := by
  unfold Gen.np_poisson poissonPdf poissonLogpdf; rw [sci_1]

theorem gen_jax_poisson_eq (n lam : ℝ) :
    Gen.jax_poisson realPrim (xlogy realPrim) lgammaR n lam = poissonPdf realPrim lgammaR n lam := by
  unfold Gen.jax_poisson poissonPdf poissonLogpdf; rw [sci_1]

theorem gen_np_normal_logpdf_eq (x mu sigma : ℝ) :
    Gen.np_normal_logpdf realPrim Real.pi x mu sigma = normalLogpdf realPrim Real.pi x mu sigma :=
  rfl

theorem gen_jax_normal_logpdf_eq (x mu sigma : ℝ) :
    Gen.jax_normal_logpdf realPrim Real.pi x mu sigma = normalLogpdf realPrim Real.pi x mu sigma :=
  rfl

/-- the numpy composition exponentiates to the Poisson mass `e^{−λ} λⁿ / n!` at integer counts -/
theorem gen_np_poisson_logpmf_nat (n : ℕ) (lam : NNReal) (hl : 0 < lam) :
    Real.exp (Gen.np_poisson_logpdf realPrim (xlogy realPrim) lgammaR (n : ℝ) lam)
      = Real.exp (-(lam : ℝ)) * (lam : ℝ) ^ n / (n.factorial : ℝ) := by
  rw [gen_np_poisson_logpdf_eq]; exact poisson_logpmf_nat n lam hl

/-- the jax composition likewise (the statement of `gen_np_poisson_logpmf_nat`) -/
theorem gen_jax_poisson_logpmf_nat (n : ℕ) (lam : NNReal) (hl : 0 < lam) :
    Real.exp (Gen.jax_poisson_logpdf realPrim (xlogy realPrim) lgammaR (n : ℝ) lam)
      = Real.exp (-(lam : ℝ)) * (lam : ℝ) ^ n / (n.factorial : ℝ) := by
  rw [gen_jax_poisson_logpdf_eq]; exact poisson_logpmf_nat n lam hl

/-- the non-log numpy / jax Poisson is the mass `e^{−λ} λⁿ / n!` itself at integer counts -/
theorem gen_poisson_pmf_nat (n : ℕ) (lam : NNReal) (hl : 0 < lam) :
    Gen.np_poisson realPrim (xlogy realPrim) lgammaR (n : ℝ) lam = Real.exp (-(lam : ℝ)) * (lam : ℝ) ^ n / (n.factorial : ℝ)
    ∧ Gen.jax_poisson realPrim (xlogy realPrim) lgammaR (n : ℝ) lam = Real.exp (-(lam : ℝ)) * (lam : ℝ) ^ n / (n.factorial : ℝ) := by
  rw [gen_np_poisson_eq, gen_jax_poisson_eq, nonlog_eq_exp_log]
  exact ⟨poisson_logpmf_nat n lam hl, poisson_logpmf_nat n lam hl⟩

/-- zero count: log-mass `−λ` at every rate, mass exactly 1 at rate 0 (both backends) -/
theorem gen_poisson_n_zero (lam : ℝ) :
    Gen.np_poisson_logpdf realPrim (xlogy realPrim) lgammaR 0 lam = -lam
    ∧ Gen.jax_poisson_logpdf realPrim (xlogy realPrim) lgammaR 0 lam = -lam
    ∧ Gen.np_poisson realPrim (xlogy realPrim) lgammaR 0 0 = 1 ∧ Gen.jax_poisson realPrim (xlogy realPrim) lgammaR 0 0 = 1 := by
  refine ⟨?_, ?_, ?_, ?_⟩
  · rw [gen_np_poisson_logpdf_eq]; exact poisson_n_zero lam
  · rw [gen_jax_poisson_logpdf_eq]; exact poisson_n_zero lam
  · rw [gen_np_poisson_eq, nonlog_eq_exp_log, poisson_rate_zero_n_zero]; exact Real.exp_zero
  · rw [gen_jax_poisson_eq, nonlog_eq_exp_log, poisson_rate_zero_n_zero]; exact Real.exp_zero

/-- the numpy / jax Normal compositions exponentiate to Mathlib's Gaussian density with mean `μ` and variance `σ²` -/
theorem gen_normal_logpdf_exact (x mu : ℝ) (sigma : NNReal) (hs : 0 < sigma) :
    Real.exp (Gen.np_normal_logpdf realPrim Real.pi x mu sigma) = ProbabilityTheory.gaussianPDFReal mu (sigma ^ 2) x
    ∧ Real.exp (Gen.jax_normal_logpdf realPrim Real.pi x mu sigma) = ProbabilityTheory.gaussianPDFReal mu (sigma ^ 2) x := by
  rw [gen_np_normal_logpdf_eq, gen_jax_normal_logpdf_eq]
  exact ⟨normal_logpdf_exact x mu sigma hs, normal_logpdf_exact x mu sigma hs⟩

end Pyhf.Props.C04
