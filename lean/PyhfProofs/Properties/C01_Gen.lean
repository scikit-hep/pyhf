import PyhfGen.Model
import PyhfProofs.Lemmas.GenNorm
/-!
# C01 (continued) — what the tensor code computes *now* is the HistFactory rate formula, for whole specification shapes

`PyhfGen/Model.lean` is regenerated on every run (`harness/gen_model.py`): for three specification shapes — (A) signal + background
with a normalisation and a correlated-shape systematic; (B) uncorrelated shape, MC-statistical uncertainty shared by two samples and
luminosity; (C) two channels with different sample sets, a systematic shared across channels and samples and a free shape factor —
the real construction path (`pyhf.Model`: builders, combined modifiers, parameter sets, viewers, masks, gather indices) and
`Model.expected_actualdata` are executed symbolically with **all yields, variations, uncertainties and parameters symbolic** (data
positive).  `<shape>_bin<b>` is the resulting function of bin `b`; `<shape>_ref<b>` is the declared rate formula of that bin written
from the specification by name (Σ_samples Π declared factors · (nominal + Σ declared shifts), interpolations = the functions of C03).
The theorems state that the two are equal for **all** real parameter values and all positive data: every interpolation regime of
every parameter, not a sample of points.  (The general statement for every specification is `C01_expected_eq_formula` of C01.lean (theorem R) about the
hand-written model; this file ties the production code itself to the formula on representative shapes.)
-/
namespace Pyhf.Props.C01

theorem shapeA_bin0_eq (s0 s1 b0 b1 nlo nhi hl0 hl1 hh0 hh1 p_sysB p_mu p_sysA : ℝ) (_hs0 : 0 < s0) (_hs1 : 0 < s1) (_hb0 : 0 < b0) (_hb1 : 0 < b1) (_hnlo : 0 < nlo) (_hnhi : 0 < nhi) (_hhl0 : 0 < hl0) (_hhl1 : 0 < hl1) (_hhh0 : 0 < hh0) (_hhh1 : 0 < hh1) :
    Gen.shapeA_bin0 realPrim s0 s1 b0 b1 nlo nhi hl0 hl1 hh0 hh1 p_sysB p_mu p_sysA = Gen.shapeA_ref0 realPrim s0 s1 b0 b1 nlo nhi hl0 hl1 hh0 hh1 p_sysB p_mu p_sysA := by
  unfold Gen.shapeA_bin0 Gen.shapeA_ref0
  rcases code4_regimes one_pos p_sysA with h | h | h <;> rcases code4p_regimes p_sysB with k | k | k <;>
    simp only [gen_norm, h, k] <;> ring1

theorem shapeA_bin1_eq (s0 s1 b0 b1 nlo nhi hl0 hl1 hh0 hh1 p_sysB p_mu p_sysA : ℝ) (_hs0 : 0 < s0) (_hs1 : 0 < s1) (_hb0 : 0 < b0) (_hb1 : 0 < b1) (_hnlo : 0 < nlo) (_hnhi : 0 < nhi) (_hhl0 : 0 < hl0) (_hhl1 : 0 < hl1) (_hhh0 : 0 < hh0) (_hhh1 : 0 < hh1) :
    Gen.shapeA_bin1 realPrim s0 s1 b0 b1 nlo nhi hl0 hl1 hh0 hh1 p_sysB p_mu p_sysA = Gen.shapeA_ref1 realPrim s0 s1 b0 b1 nlo nhi hl0 hl1 hh0 hh1 p_sysB p_mu p_sysA := by
  unfold Gen.shapeA_bin1 Gen.shapeA_ref1
  rcases code4_regimes one_pos p_sysA with h | h | h <;> rcases code4p_regimes p_sysB with k | k | k <;>
    simp only [gen_norm, h, k] <;> ring1

theorem shapeB_bin0_eq (s0 s1 es0 es1 b0 b1 u0 u1 eb0 eb1 hl0 hl1 hh0 hh1 p_sysH p_lumi p_mu p_uncorr_0 p_uncorr_1 p_stat_SR_0 p_stat_SR_1 : ℝ) (_hs0 : 0 < s0) (_hs1 : 0 < s1) (_hes0 : 0 < es0) (_hes1 : 0 < es1) (_hb0 : 0 < b0) (_hb1 : 0 < b1) (_hu0 : 0 < u0) (_hu1 : 0 < u1) (_heb0 : 0 < eb0) (_heb1 : 0 < eb1) (_hhl0 : 0 < hl0) (_hhl1 : 0 < hl1) (_hhh0 : 0 < hh0) (_hhh1 : 0 < hh1) :
    Gen.shapeB_bin0 realPrim s0 s1 es0 es1 b0 b1 u0 u1 eb0 eb1 hl0 hl1 hh0 hh1 p_sysH p_lumi p_mu p_uncorr_0 p_uncorr_1 p_stat_SR_0 p_stat_SR_1 = Gen.shapeB_ref0 realPrim s0 s1 es0 es1 b0 b1 u0 u1 eb0 eb1 hl0 hl1 hh0 hh1 p_sysH p_lumi p_mu p_uncorr_0 p_uncorr_1 p_stat_SR_0 p_stat_SR_1 := by
  unfold Gen.shapeB_bin0 Gen.shapeB_ref0
  rcases code4p_regimes p_sysH with h | h | h <;> simp only [gen_norm, h] <;> ring1

theorem shapeB_bin1_eq (s0 s1 es0 es1 b0 b1 u0 u1 eb0 eb1 hl0 hl1 hh0 hh1 p_sysH p_lumi p_mu p_uncorr_0 p_uncorr_1 p_stat_SR_0 p_stat_SR_1 : ℝ) (_hs0 : 0 < s0) (_hs1 : 0 < s1) (_hes0 : 0 < es0) (_hes1 : 0 < es1) (_hb0 : 0 < b0) (_hb1 : 0 < b1) (_hu0 : 0 < u0) (_hu1 : 0 < u1) (_heb0 : 0 < eb0) (_heb1 : 0 < eb1) (_hhl0 : 0 < hl0) (_hhl1 : 0 < hl1) (_hhh0 : 0 < hh0) (_hhh1 : 0 < hh1) :
    Gen.shapeB_bin1 realPrim s0 s1 es0 es1 b0 b1 u0 u1 eb0 eb1 hl0 hl1 hh0 hh1 p_sysH p_lumi p_mu p_uncorr_0 p_uncorr_1 p_stat_SR_0 p_stat_SR_1 = Gen.shapeB_ref1 realPrim s0 s1 es0 es1 b0 b1 u0 u1 eb0 eb1 hl0 hl1 hh0 hh1 p_sysH p_lumi p_mu p_uncorr_0 p_uncorr_1 p_stat_SR_0 p_stat_SR_1 := by
  unfold Gen.shapeB_bin1 Gen.shapeB_ref1
  rcases code4p_regimes p_sysH with h | h | h <;> simp only [gen_norm, h] <;> ring1

theorem shapeC_bin0_eq (c0 clo chi s0 s1 slo shi b0 b1 p_k_bkg p_mu p_sysA p_sf_SR_0 p_sf_SR_1 : ℝ) (_hc0 : 0 < c0) (_hclo : 0 < clo) (_hchi : 0 < chi) (_hs0 : 0 < s0) (_hs1 : 0 < s1) (_hslo : 0 < slo) (_hshi : 0 < shi) (_hb0 : 0 < b0) (_hb1 : 0 < b1) :
    Gen.shapeC_bin0 realPrim c0 clo chi s0 s1 slo shi b0 b1 p_k_bkg p_mu p_sysA p_sf_SR_0 p_sf_SR_1 = Gen.shapeC_ref0 realPrim c0 clo chi s0 s1 slo shi b0 b1 p_k_bkg p_mu p_sysA p_sf_SR_0 p_sf_SR_1 := by
  unfold Gen.shapeC_bin0 Gen.shapeC_ref0
  rcases code4_regimes one_pos p_sysA with h | h | h <;> simp only [gen_norm, h] <;> ring1

theorem shapeC_bin1_eq (c0 clo chi s0 s1 slo shi b0 b1 p_k_bkg p_mu p_sysA p_sf_SR_0 p_sf_SR_1 : ℝ) (_hc0 : 0 < c0) (_hclo : 0 < clo) (_hchi : 0 < chi) (_hs0 : 0 < s0) (_hs1 : 0 < s1) (_hslo : 0 < slo) (_hshi : 0 < shi) (_hb0 : 0 < b0) (_hb1 : 0 < b1) :
    Gen.shapeC_bin1 realPrim c0 clo chi s0 s1 slo shi b0 b1 p_k_bkg p_mu p_sysA p_sf_SR_0 p_sf_SR_1 = Gen.shapeC_ref1 realPrim c0 clo chi s0 s1 slo shi b0 b1 p_k_bkg p_mu p_sysA p_sf_SR_0 p_sf_SR_1 := by
  unfold Gen.shapeC_bin1 Gen.shapeC_ref1
  rcases code4_regimes one_pos p_sysA with h | h | h <;> simp only [gen_norm, h] <;> ring1

theorem shapeC_bin2_eq (c0 clo chi s0 s1 slo shi b0 b1 p_k_bkg p_mu p_sysA p_sf_SR_0 p_sf_SR_1 : ℝ) (_hc0 : 0 < c0) (_hclo : 0 < clo) (_hchi : 0 < chi) (_hs0 : 0 < s0) (_hs1 : 0 < s1) (_hslo : 0 < slo) (_hshi : 0 < shi) (_hb0 : 0 < b0) (_hb1 : 0 < b1) :
    Gen.shapeC_bin2 realPrim c0 clo chi s0 s1 slo shi b0 b1 p_k_bkg p_mu p_sysA p_sf_SR_0 p_sf_SR_1 = Gen.shapeC_ref2 realPrim c0 clo chi s0 s1 slo shi b0 b1 p_k_bkg p_mu p_sysA p_sf_SR_0 p_sf_SR_1 := by
  unfold Gen.shapeC_bin2 Gen.shapeC_ref2
  rcases code4_regimes one_pos p_sysA with h | h | h <;> simp only [gen_norm, h] <;> ring1

end Pyhf.Props.C01
