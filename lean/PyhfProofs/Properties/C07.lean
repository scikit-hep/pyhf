import PyhfModel.Infer
import PyhfProofs.Lemmas.Mills
import PyhfProofs.Lemmas.RealPrim
import Mathlib.Analysis.SpecialFunctions.Sqrt
import Mathlib.Analysis.SpecialFunctions.Pow.Real
import Mathlib.Tactic.Linarith
import Mathlib.Tactic.Ring
import Mathlib.Tactic.FieldSimp
/-!
# C07 — asymptotic p-values follow the formulae of arXiv:1007.1727

`Φ` (standard normal cdf) is an arbitrary function; hypotheses on it are stated where used.
`asymTeststat`, `asymDistributions`, `AsymDist.pvalueArg/expectedValue` model
`AsymptoticCalculator.teststatistic/distributions/pvalues/expected_pvalues`; a p-value is `Φ` of the
returned argument.
-/
namespace Pyhf.Props.C07
open Pyhf.Infer

/-- the model's squaring (`tensorlib.power(x, 2)`) over ℝ -/
noncomputable def sq (x : ℝ) : ℝ := x ^ 2

/-! `clsbArg`, `clbArg`: the arguments of `Φ` that give CL_{s+b} and CL_b, as functions of `(q, q_A)` (`none`: no p-value is reported —
the clipped base distribution below its cutoff). -/
noncomputable def clsbArg (ts : TestStat) (q qA : ℝ) (clipped : Bool) : Option ℝ :=
  (asymDistributions (Real.sqrt qA) clipped).1.pvalueArg (asymTeststat Real.sqrt sq ts q qA)
noncomputable def clbArg (ts : TestStat) (q qA : ℝ) (clipped : Bool) : Option ℝ :=
  (asymDistributions (Real.sqrt qA) clipped).2.pvalueArg (asymTeststat Real.sqrt sq ts q qA)

/-- `CL_{s+b} = Φ(−√q) = 1 − Φ(√q)` for `q_μ`, `q_0`, and `q̃_μ` with `√q ≤ √q_A` -/
theorem clsb_q (ts : TestStat) (q qA : ℝ) (h : ts ≠ .qtilde ∨ Real.sqrt q ≤ Real.sqrt qA) :
    clsbArg ts q qA false = some (-Real.sqrt q) := by
  unfold clsbArg asymDistributions asymTeststat AsymDist.pvalueArg
  rcases h with h | h
  · cases ts <;> first | exact absurd rfl h | (simp only [Bool.false_eq_true, if_false]; congr 1; ring)
  · cases ts <;> simp only [Bool.false_eq_true, if_false, h, if_true] <;> (congr 1; ring)

/-- `CL_b = Φ(−(√q − √q_A)) = 1 − Φ(√q − √q_A)` for `q_μ`, `q_0`, and `q̃_μ` with `√q ≤ √q_A` -/
theorem clb_q (ts : TestStat) (q qA : ℝ) (h : ts ≠ .qtilde ∨ Real.sqrt q ≤ Real.sqrt qA) :
    clbArg ts q qA false = some (-(Real.sqrt q - Real.sqrt qA)) := by
  unfold clbArg asymDistributions asymTeststat AsymDist.pvalueArg
  rcases h with h | h
  · cases ts <;> first | exact absurd rfl h | (simp only [Bool.false_eq_true, if_false]; congr 1; ring)
  · cases ts <;> simp only [Bool.false_eq_true, if_false, h, if_true] <;> (congr 1; ring)

/-- `q̃_μ` with `q > q_A`: `CL_{s+b} = Φ(−(q + q_A)/(2√q_A))` -/
theorem clsb_qtilde_hi (q qA : ℝ) (hq : 0 ≤ q) (hA : 0 < qA) (h : Real.sqrt qA < Real.sqrt q) :
    clsbArg .qtilde q qA false = some (-((q + qA) / (2 * Real.sqrt qA))) := by
  unfold clsbArg asymDistributions asymTeststat AsymDist.pvalueArg
  simp only [Bool.false_eq_true, if_false, not_le.mpr h, sq, Real.sq_sqrt hq, Real.sq_sqrt hA.le, sci_2]
  congr 1
  field_simp
  linarith [Real.sq_sqrt hA.le]

/-- `q̃_μ` with `q > q_A`: `CL_b = Φ(−(q − q_A)/(2√q_A))` -/
theorem clb_qtilde_hi (q qA : ℝ) (hq : 0 ≤ q) (hA : 0 < qA) (h : Real.sqrt qA < Real.sqrt q) :
    clbArg .qtilde q qA false = some (-((q - qA) / (2 * Real.sqrt qA))) := by
  unfold clbArg asymDistributions asymTeststat AsymDist.pvalueArg
  simp only [Bool.false_eq_true, if_false, not_le.mpr h, sq, Real.sq_sqrt hq, Real.sq_sqrt hA.le, sci_2]
  congr 1; ring

/-- the two `q̃` branches agree at `q = q_A` -/
theorem branches_agree_at_seam (qA : ℝ) (hA : 0 < qA) :
    (qA + qA) / (2 * Real.sqrt qA) = Real.sqrt qA ∧ (qA - qA) / (2 * Real.sqrt qA) = Real.sqrt qA - Real.sqrt qA := by
  constructor
  · field_simp; linarith [Real.sq_sqrt hA.le]
  · simp

/-- expected values: the background-only distribution's `N`-sigma test-statistic value is `N` -/
theorem expected_teststat (sA n : ℝ) : (asymDistributions sA false).2.expectedValue n = n := by
  simp [asymDistributions, AsymDist.expectedValue]

/-- the expected `CL_s` at `n` sigma is `Φ(−n − √q_A)/Φ(−n)`: the two `Φ`-arguments at the expected test-statistic value -/
theorem expected_formula (sA n : ℝ) :
    asymPvalueArgs (asymDistributions sA false).1 (asymDistributions sA false).2
      ((asymDistributions sA false).2.expectedValue n) = (some (-n - sA), some (-n)) := by
  rw [expected_teststat]
  simp only [asymPvalueArgs, asymDistributions, AsymDist.pvalueArg, Bool.false_eq_true, if_false]
  have e1 : -(n - -sA) = -n - sA := by ring
  have e2 : -(n - 0) = -n := by ring
  rw [e1, e2]

/-- the five expected points are evaluated at `n = 2, 1, 0, −1, −2`, in that order -/
theorem expected_order (sA : ℝ) : asymExpectedTs (asymDistributions sA false).2 = [2, 1, 0, -1, -2] := by
  simp only [asymExpectedTs, List.map_cons, List.map_nil, expected_teststat, sci_2]

/-! ### ordering -/

/-- `0 ≤ CL_{s+b} ≤ CL_b ≤ 1` and `0 ≤ CL_s ≤ 1` for any monotone `Φ` with values in `(0, 1]` -/
theorem ordering (Φ : ℝ → ℝ) (hmono : Monotone Φ) (hpos : ∀ x, 0 < Φ x) (hle : ∀ x, Φ x ≤ 1) (t sA : ℝ) (hsA : 0 ≤ sA) :
    let clsb := Φ (-(t - (-sA)))
    let clb := Φ (-(t - 0))
    0 ≤ clsb ∧ clsb ≤ clb ∧ clb ≤ 1 ∧ 0 ≤ clsb / clb ∧ clsb / clb ≤ 1 := by
  intro clsb clb
  have h1 : clsb ≤ clb := hmono (by linarith)
  refine ⟨(hpos _).le, h1, hle _, div_nonneg (hpos _).le (hpos _).le, ?_⟩
  rw [div_le_one (hpos _)]; exact h1

/-- the five-point band is non-decreasing from the −2σ to the +2σ entry, for any `Φ` such that `x ↦ Φ(x − a)/Φ(x)` is
monotone (discharged for the normal cdf in `band_monotone` below) -/
theorem band_monotone_of_ratio_monotone (Φ : ℝ → ℝ) (sA : ℝ)
    (hlc : Monotone fun x => Φ (x - sA) / Φ x) :
    List.Pairwise (· ≤ ·) ([2, 1, 0, -1, -2].map fun n : ℝ => Φ (-n - sA) / Φ (-n)) := by
  refine List.pairwise_map.mpr (List.Pairwise.imp (R := (· ≥ ·)) (fun h => hlc (neg_le_neg h)) ?_)
  norm_num

/-! ### the statements above for the actual standard normal cdf

`Mills.Phi = cdf (gaussianReal 0 1)` (Mathlib).  `Lemmas/Mills.lean` proves `Φ' = φ`, the Mills-ratio bound
`x·Φ(x) + φ(x) ≥ 0`, hence `φ/Φ` antitone and `x ↦ Φ(x − a)/Φ(x)` monotone for `a ≥ 0` (log-concavity of `Φ`). -/

/-- **the five-point expected band is non-decreasing from −2σ to +2σ**, for every Asimov value `q_A` -/
theorem band_monotone (qA : ℝ) :
    List.Pairwise (· ≤ ·) ([2, 1, 0, -1, -2].map fun n : ℝ => Mills.Phi (-n - Real.sqrt qA) / Mills.Phi (-n)) :=
  band_monotone_of_ratio_monotone Mills.Phi (Real.sqrt qA) (Mills.Phi_ratio_monotone _ (Real.sqrt_nonneg qA))

/-- `0 ≤ CL_{s+b} ≤ CL_b ≤ 1` and `0 ≤ CL_s ≤ 1` with the normal cdf -/
theorem ordering_normal (t qA : ℝ) :
    let clsb := Mills.Phi (-(t - (-Real.sqrt qA)))
    let clb := Mills.Phi (-(t - 0))
    0 ≤ clsb ∧ clsb ≤ clb ∧ clb ≤ 1 ∧ 0 ≤ clsb / clb ∧ clsb / clb ≤ 1 :=
  ordering Mills.Phi Mills.Phi_mono Mills.Phi_pos Mills.Phi_le_one t (Real.sqrt qA) (Real.sqrt_nonneg qA)

/-- the "1 − Φ" forms of the statement: `Φ(−x) = 1 − Φ(x)` -/
theorem one_minus_form (x : ℝ) : Mills.Phi (-x) = 1 - Mills.Phi x := Mills.Phi_neg x

/-! ### clipped base distribution -/

/-- no expected value lies below the cutoff `−√q_A` (i.e. corresponds to a negative test statistic) -/
theorem clipped_expected_ge_cutoff (sA n : ℝ) : -sA ≤ (asymDistributions sA true).2.expectedValue n := by
  simp only [asymDistributions, AsymDist.expectedValue, if_true]
  split_ifs with h
  · exact h.le
  · exact le_refl _

/-- above the cutoff the clipped distribution gives the same expected value as the normal one -/
theorem clipped_equals_normal_above_cutoff (sA n : ℝ) (h : -sA < 0 + n) :
    (asymDistributions sA true).2.expectedValue n = (asymDistributions sA false).2.expectedValue n := by
  simp only [asymDistributions, AsymDist.expectedValue, if_true, Bool.false_eq_true, if_false, h]

/-- p-values at or above the cutoff are those of the normal base distribution; below it none is reported -/
theorem clipped_pvalue (sA t : ℝ) :
    (asymDistributions sA true).1.pvalueArg t =
      if -sA ≤ t then (asymDistributions sA false).1.pvalueArg t else none := by
  simp [asymDistributions, AsymDist.pvalueArg]

end Pyhf.Props.C07
