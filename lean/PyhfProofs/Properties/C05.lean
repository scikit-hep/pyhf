import PyhfProofs.Lemmas.KKT
import PyhfModel.Infer
import PyhfProofs.Lemmas.Argsort
import PyhfProofs.Properties.C06
import Mathlib.Data.Real.Basic
/-!
# C05 — maximum-likelihood fits return a feasible, honest, optimal point  (logic part)

What is provable: the plumbing around the external minimiser — which parameters are held fixed at which values,
how fixed parameters are stitched back into the full vector, zero uncertainties for fixed parameters, the
input validation — and the optimality certificate for the Poisson term.  That the minimiser itself
converges is runtime behaviour and is monitored by the harness.
-/
namespace Pyhf.Props.C05
open Pyhf.Infer

/-- `fixed_vals` lists exactly the fixed positions with their initial values -/
theorem fixed_vals_spec (init : List ℝ) (fixed : List Bool) (i : Nat) (x : ℝ) :
    (i, x) ∈ fixedVals init fixed ↔ (∃ h : i < init.length, ∃ h' : i < fixed.length, init[i] = x ∧ fixed[i] = true) := by
  unfold fixedVals
  simp only [List.mem_filterMap]
  constructor
  · rintro ⟨⟨j, y, f⟩, hmem, hsome⟩
    obtain ⟨k, hk, hkeq⟩ := List.mem_iff_getElem.mp hmem
    simp only [List.getElem_zip, List.getElem_range, Prod.mk.injEq] at hkeq
    obtain ⟨rfl, rfl, rfl⟩ := hkeq
    simp only [List.length_zip, List.length_range, lt_min_iff] at hk
    cases hf : fixed[k]'hk.2.2 with
    | false => simp [hf] at hsome
    | true =>
      simp only [hf, if_true, Option.some.injEq, Prod.mk.injEq] at hsome
      obtain ⟨rfl, rfl⟩ := hsome
      exact ⟨hk.2.1, hk.2.2, rfl, hf⟩
  · rintro ⟨h, h', rfl, hf⟩
    refine ⟨(i, init[i], fixed[i]), ?_, by simp [hf]⟩
    rw [List.mem_iff_getElem]
    refine ⟨i, by simp [h, h'], by simp⟩

/-- a fixed-POI fit holds the POI at the supplied value and flags it fixed; nothing else changes -/
theorem fixed_poi_fit_forces_poi (init : List ℝ) (fixed : List Bool) (poi : Nat) (v : ℝ)
    (h1 : poi < init.length) (h2 : poi < fixed.length) :
    (fixedPoiInputs init fixed poi v).1.getD poi 0 = v ∧ (fixedPoiInputs init fixed poi v).2.getD poi false = true ∧
    (∀ j, j ≠ poi → (fixedPoiInputs init fixed poi v).1.getD j 0 = init.getD j 0) ∧
    (∀ j, j ≠ poi → (fixedPoiInputs init fixed poi v).2.getD j false = fixed.getD j false) := by
  simp only [fixedPoiInputs, List.getD_eq_getElem?_getD]
  refine ⟨by simp [h1], by simp [h2], ?_, ?_⟩
  · intro j hj; simp [List.getElem?_set_ne (Ne.symm hj)]
  · intro j hj; simp [List.getElem?_set_ne (Ne.symm hj)]

/-- the fixed and the variable indices together enumerate every parameter exactly once -/
theorem fixed_variable_partition (npars : Nat) (p : Nat → Bool) :
    let fixedIdx := (List.range npars).filter p
    (fixedIdx ++ variableIdx npars fixedIdx).Perm (List.range npars) := by
  intro fixedIdx
  have e : variableIdx npars fixedIdx = (List.range npars).filter (fun i => !p i) := by
    apply List.filter_congr
    intro i hi
    simp only [fixedIdx, List.contains_eq_mem, List.mem_filter, hi, true_and]
    cases p i <;> rfl
  rw [e]
  exact List.filter_append_perm p (List.range npars)

/-- **stitching puts every value where it belongs**: entry `k` of the concatenation `fixed values ++ free values`
lands at position `(fixed_idx ++ variable_idx)[k]` of the full parameter vector — so each fixed parameter gets
exactly its supplied value and each free parameter the minimiser's value -/
theorem stitch_spec (fixedIdx varIdx : List Nat) (fixedValues free : List ℝ)
    (hperm : (fixedIdx ++ varIdx).Perm (List.range (fixedIdx ++ varIdx).length))
    (k : Nat) (hk : k < (fixedIdx ++ varIdx).length) :
    (stitchPars fixedIdx varIdx fixedValues free).getD ((fixedIdx ++ varIdx).getD k 0) 0
      = (fixedValues ++ free).getD k 0 := by
  have h := Pyhf.stitch_spec (TV.mk [fixedIdx, varIdx]) (0 : ℝ) [fixedValues, free]
  simp only [List.flatten_cons, List.flatten_nil, List.append_nil] at h
  exact h hperm k hk

/-- a fixed parameter is returned **exactly** at its supplied value -/
theorem stitch_fixed_exact (fixedIdx varIdx : List Nat) (fixedValues free : List ℝ)
    (hperm : (fixedIdx ++ varIdx).Perm (List.range (fixedIdx ++ varIdx).length))
    (hlen : fixedValues.length = fixedIdx.length) (k : Nat) (hk : k < fixedIdx.length) :
    (stitchPars fixedIdx varIdx fixedValues free).getD (fixedIdx.getD k 0) 0 = fixedValues.getD k 0 := by
  have h := stitch_spec fixedIdx varIdx fixedValues free hperm k (by rw [List.length_append]; omega)
  rwa [List.getD_append _ _ _ _ hk, List.getD_append _ _ _ _ (hlen ▸ hk)] at h

/-- a free parameter is returned at the minimiser's value -/
theorem stitch_free (fixedIdx varIdx : List Nat) (fixedValues free : List ℝ)
    (hperm : (fixedIdx ++ varIdx).Perm (List.range (fixedIdx ++ varIdx).length))
    (hlen : fixedValues.length = fixedIdx.length) (k : Nat) (hk : k < varIdx.length) :
    (stitchPars fixedIdx varIdx fixedValues free).getD (varIdx.getD k 0) 0 = free.getD k 0 := by
  have h := stitch_spec fixedIdx varIdx fixedValues free hperm (fixedIdx.length + k) (by rw [List.length_append]; omega)
  rwa [List.getD_append_right _ _ _ _ (Nat.le_add_right _ _), List.getD_append_right _ _ _ _ (hlen ▸ Nat.le_add_right _ _),
    hlen, Nat.add_sub_cancel_left] at h

/-- fixed parameters are reported with zero uncertainty -/
theorem postprocess_fixed_unc_zero (fixedIdx varIdx : List Nat) (freeUnc : List ℝ)
    (hperm : (fixedIdx ++ varIdx).Perm (List.range (fixedIdx ++ varIdx).length))
    (k : Nat) (hk : k < fixedIdx.length) :
    (stitchUncertainties fixedIdx varIdx freeUnc).getD (fixedIdx.getD k 0) 0 = 0 := by
  -- the uncertainties are stitched like parameters whose fixed values are all `0`
  rw [show stitchUncertainties fixedIdx varIdx freeUnc
      = stitchPars fixedIdx varIdx (List.replicate fixedIdx.length 0) freeUnc from rfl,
    stitch_fixed_exact fixedIdx varIdx _ freeUnc hperm List.length_replicate k hk]
  simp [List.getD_eq_getElem?_getD, hk]

/-- the initial point is accepted iff every coordinate lies within its bounds -/
theorem validate_inputs_iff_in_bounds (init : List ℝ) (bounds : List (ℝ × ℝ)) :
    validInits init bounds = true ↔ ∀ p ∈ init.zip bounds, p.2.1 ≤ p.1 ∧ p.1 ≤ p.2.2 := by
  unfold validInits
  simp

/-- **optimality certificate for a Poisson bin**: no rate gives a lower objective than the observed count itself
(the saturated optimum attained by `μ̂ = (n − b)/s`) -/
theorem closed_form_single_bin (n lam : ℝ) (hn : 0 < n) (hl : 0 < lam) : C06.twoNll n n ≤ C06.twoNll n lam :=
  C06.poisson_nll_min n lam hn hl

/-! ### optimality certificate (affine-rate family) -/
section KKT
open Pyhf.KKT
variable {ι : Type} [Fintype ι] [DecidableEq ι] {β κ : Type} [Fintype β] [Fintype κ]

/-- **first-order lower bound from approximate KKT conditions**: if `f` lies above its linearisation at a feasible `θ₀`
and the slope satisfies the sign conditions of a box-constrained minimum up to `ε` (`g_j ≤ ε` where the coordinate can
move down, `g_j ≥ −ε` where it can move up), then no feasible point has an objective lower than `f θ₀ − ε·Σ(ub−lb)` -/
theorem kkt_lower_bound (f : (ι → ℝ) → ℝ) (g θ₀ lb ub : ι → ℝ) (ε : ℝ) (hε : 0 ≤ ε)
    (h0 : θ₀ ∈ box lb ub) (hfo : FirstOrder f g θ₀ (box lb ub)) (hk : KKTeps g θ₀ lb ub ε) :
    ∀ θ ∈ box lb ub, f θ₀ - ε * ∑ j, (ub j - lb j) ≤ f θ := by
  intro θ hθ
  have h1 := hfo θ hθ
  have h2 : -(ε * ∑ j, (ub j - lb j)) ≤ ∑ j, g j * (θ j - θ₀ j) := by
    rw [Finset.mul_sum, ← Finset.sum_neg_distrib]
    apply Finset.sum_le_sum
    intro j _
    obtain ⟨hl, hu⟩ := hθ j
    obtain ⟨hl0, hu0⟩ := h0 j
    obtain ⟨hk1, hk2⟩ := hk j
    -- where the coordinate moves up (down) it can, so the slope is ≥ −ε (≤ ε); it moves by at most `ub j − lb j`
    rcases lt_trichotomy (θ₀ j) (θ j) with hlt | he | hgt
    · have h1 := mul_le_mul_of_nonneg_right (hk2 (hlt.trans_le hu)) (sub_nonneg.mpr hlt.le)
      have h2 := mul_le_mul_of_nonneg_left (show θ j - θ₀ j ≤ ub j - lb j by linarith) hε
      linarith
    · rw [← he, sub_self, mul_zero, neg_nonpos]
      exact mul_nonneg hε (by linarith)
    · have h1 := mul_le_mul_of_nonpos_right (hk1 (hl.trans_lt hgt)) (sub_nonpos.mpr hgt.le)
      have h2 := mul_le_mul_of_nonneg_left (show θ₀ j - θ j ≤ ub j - lb j by linarith) hε
      linarith
  linarith

/-- twice the negative log-likelihood of every affine-rate model (normalisation / bin-wise factors on distinct samples,
Gaussian and Poisson constraints) lies above its linearisation wherever the rates are positive -/
theorem twoNllAffine_first_order (n c : β → ℝ) (a : β → ι → ℝ) (gk : κ → ι) (aux σ : κ → ℝ) (θ₀ : ι → ℝ) (S : Set (ι → ℝ))
    (hn : ∀ b, 0 ≤ n b) (hpos : ∀ θ ∈ S, ∀ b, 0 < affine (c b) (a b) θ) (h0 : ∀ b, 0 < affine (c b) (a b) θ₀) :
    FirstOrder (twoNllAffine n c a gk aux σ) (gradAffine n c a gk aux σ θ₀) θ₀ S := by
  have hP := FirstOrder.smul 2 (by norm_num) (FirstOrder.sum Finset.univ
    (fun b θ => affine (c b) (a b) θ - n b * Real.log (affine (c b) (a b) θ))
    (fun b j => (1 - n b / affine (c b) (a b) θ₀) * a b j) θ₀ S
    (fun b _ => poisson_affine_first_order (n b) (c b) (a b) θ₀ (hn b) S (fun θ hθ => hpos θ hθ b) (h0 b)))
  have hG := FirstOrder.sum Finset.univ (fun k θ => ((θ (gk k) - aux k) / σ k) ^ 2)
    (fun k j => if j = gk k then 2 * (θ₀ (gk k) - aux k) / σ k ^ 2 else 0) θ₀ S
    (fun k _ => gauss_first_order (gk k) (aux k) (σ k) θ₀ S)
  exact FirstOrder.add hP hG

/-- **KKT certificate**: at a feasible point where the gradient satisfies the sign conditions up to `ε`, the objective is
within `ε·Σ(ub−lb)` of the **global** minimum over the box — for every affine-rate model with positive rates on the box. -/
theorem kkt_certificate (n c : β → ℝ) (a : β → ι → ℝ) (gk : κ → ι) (aux σ : κ → ℝ) (θ₀ lb ub : ι → ℝ) (ε : ℝ) (hε : 0 ≤ ε)
    (hn : ∀ b, 0 ≤ n b) (hpos : ∀ θ ∈ box lb ub, ∀ b, 0 < affine (c b) (a b) θ) (h0 : θ₀ ∈ box lb ub)
    (hk : KKTeps (gradAffine n c a gk aux σ θ₀) θ₀ lb ub ε) :
    ∀ θ ∈ box lb ub, twoNllAffine n c a gk aux σ θ₀ - ε * ∑ j, (ub j - lb j) ≤ twoNllAffine n c a gk aux σ θ :=
  kkt_lower_bound _ _ θ₀ lb ub ε hε h0
    (twoNllAffine_first_order n c a gk aux σ θ₀ _ hn hpos (hpos θ₀ h0)) hk

/-- non-vacuity: the one-bin counting model `ν = 10 + 5μ` with `n = 15` observed, `μ ∈ [0,10]`: `μ = 1` is optimal (ε = 0) -/
example : ∀ θ ∈ box (fun _ : Unit => (0 : ℝ)) (fun _ => 10),
    twoNllAffine (ι := Unit) (β := Unit) (κ := Empty) (fun _ => 15) (fun _ => 10) (fun _ _ => 5) Empty.elim Empty.elim Empty.elim (fun _ => 1)
      - 0 * ∑ _j : Unit, ((10 : ℝ) - 0)
      ≤ twoNllAffine (ι := Unit) (β := Unit) (κ := Empty) (fun _ => 15) (fun _ => 10) (fun _ _ => 5) Empty.elim Empty.elim Empty.elim θ := by
  apply kkt_certificate (ι := Unit) (β := Unit) (κ := Empty) (fun _ => 15) (fun _ => 10) (fun _ _ => 5) Empty.elim Empty.elim Empty.elim
    (fun _ => 1) (fun _ => 0) (fun _ => 10) 0 (le_refl _)
  · intro _; norm_num
  · intro θ hθ b; have := (hθ ()).1; simp only [affine, Finset.univ_unique, Finset.sum_singleton]; linarith
  · intro j; norm_num
  · intro j; simp [gradAffine, affine]; norm_num

end KKT

end Pyhf.Props.C05
