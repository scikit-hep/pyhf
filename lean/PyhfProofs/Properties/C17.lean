import PyhfModel.PatchSet
import PyhfProofs.Lemmas.Dump
import PyhfProofs.Lemmas.PatchSetDict
/-!
# C17 — patch sets look up, verify and apply patches exactly
-/
namespace Pyhf.Props.C17
open Pyhf.PatchSet

variable {V : Type} [DecidableEq V]

/-- **the constructor succeeds exactly when its checks pass, and then holds exactly the expected entries** -/
theorem buildFrom_ok_iff (nlabels : Nat) (d : Dict V) (i : Nat) (ps : List (Meta V)) (d' : Dict V) :
    buildFrom nlabels d i ps = .ok d' ↔ (d' = d ++ entries i ps ∧
      (∀ p ∈ ps, Key.name p.name ∉ keys d ∧ Key.values p.values ∉ keys d ∧ p.values.length = nlabels) ∧
      (ps.map (·.name)).Nodup ∧ (ps.map (·.values)).Nodup) := by
  induction ps generalizing d i with
  | nil => simp [buildFrom, entries, eq_comm]
  | cons p ps ih =>
    have step : buildFrom nlabels d i (p :: ps) = .ok d' ↔
        ∃ d1, insertPatch nlabels d i p = .ok d1 ∧ buildFrom nlabels d1 (i + 1) ps = .ok d' := by
      simp only [buildFrom]; cases insertPatch nlabels d i p <;> simp
    simp only [step, insertPatch_ok_iff, ih, entries_cons, List.forall_mem_cons, List.map_cons, List.nodup_cons,
      List.mem_map, not_exists, not_and]
    -- by `keys_app`, a later patch `q` meets the keys `p` added exactly when it repeats the name or the values of `p`
    constructor
    · rintro ⟨_, ⟨hp, rfl⟩, rfl, hall, hnn, hnv⟩
      simp only [keys_app, not_or] at hall
      exact ⟨List.append_assoc .., ⟨hp, fun q hq => ⟨(hall q hq).1.1, (hall q hq).2.1.1, (hall q hq).2.2⟩⟩,
        ⟨fun q hq e => (hall q hq).1.2.1 (by rw [e]), hnn⟩, fun q hq e => (hall q hq).2.1.2.2 (by rw [e]), hnv⟩
    · rintro ⟨rfl, ⟨hp, hall⟩, ⟨hpn, hnn⟩, hpv, hnv⟩
      refine ⟨_, ⟨hp, rfl⟩, (List.append_assoc ..).symm, fun q hq => ?_, hnn, hnv⟩
      simp only [keys_app, not_or]
      exact ⟨⟨(hall q hq).1, fun e => hpn q hq (Key.name.inj e), nofun⟩,
        ⟨(hall q hq).2.1, nofun, fun e => hpv q hq (Key.values.inj e)⟩, (hall q hq).2.2⟩

/-- **a patch set is accepted iff names are pairwise distinct, value tuples are pairwise distinct and every tuple has
one entry per label — whatever the names are** -/
theorem ctor_accepts_iff (nlabels : Nat) (ps : List (Meta V)) :
    (∃ d, build nlabels ps = .ok d) ↔
      ((ps.map (·.name)).Nodup ∧ (ps.map (·.values)).Nodup ∧ ∀ p ∈ ps, p.values.length = nlabels) := by
  constructor
  · rintro ⟨d, h⟩
    obtain ⟨_, hall, hn, hv⟩ := (buildFrom_ok_iff nlabels [] 0 ps d).mp h
    exact ⟨hn, hv, fun p hp => (hall p hp).2.2⟩
  · rintro ⟨hn, hv, hl⟩
    exact ⟨_, (buildFrom_ok_iff nlabels [] 0 ps _).mpr ⟨rfl, fun p hp => ⟨by simp [keys], by simp [keys], hl p hp⟩, hn, hv⟩⟩

theorem ctor_rejects_duplicate_name (nlabels : Nat) (ps : List (Meta V)) (h : ¬ (ps.map (·.name)).Nodup) :
    ∃ e, build nlabels ps = .error e := by
  cases hb : build nlabels ps with
  | error e => exact ⟨e, rfl⟩
  | ok d => exact absurd ((ctor_accepts_iff nlabels ps).mp ⟨d, hb⟩).1 h

theorem ctor_rejects_duplicate_values (nlabels : Nat) (ps : List (Meta V)) (h : ¬ (ps.map (·.values)).Nodup) :
    ∃ e, build nlabels ps = .error e := by
  cases hb : build nlabels ps with
  | error e => exact ⟨e, rfl⟩
  | ok d => exact absurd ((ctor_accepts_iff nlabels ps).mp ⟨d, hb⟩).2.1 h

/-- the accepted dictionary is exactly `entries`, of patches with distinct names and distinct value tuples -/
theorem build_ok_entries (nlabels : Nat) (ps : List (Meta V)) (d : Dict V) (h : build nlabels ps = .ok d) :
    d = entries 0 ps ∧ (ps.map (·.name)).Nodup ∧ (ps.map (·.values)).Nodup := by
  obtain ⟨hd, -, hn, hv⟩ := (buildFrom_ok_iff nlabels [] 0 ps d).mp h
  exact ⟨by simpa using hd, hn, hv⟩

/-- **any other key raises the lookup error** -/
theorem lookup_other_raises (nlabels : Nat) (ps : List (Meta V)) (d : Dict V) (h : build nlabels ps = .ok d)
    (k : Key V) (hk : ∀ p ∈ ps, k ≠ .name p.name ∧ k ≠ .values p.values) : lookup d k = .error .lookup := by
  obtain ⟨rfl, hn, hv⟩ := build_ok_entries nlabels ps d h
  cases hg : Dict.get? (entries 0 ps) k with
  | none => simp only [lookup, hg]
  | some j =>
    obtain ⟨p, hp, hkp⟩ := (lookup_entries_iff ps hn hv k j).1 (by simp only [lookup, hg])
    exact absurd hkp (not_or.2 (hk p (List.mem_of_getElem? hp)))

/-- **each patch is retrievable by exactly its name and by exactly its value tuple** -/
theorem lookup_by_name_or_values (nlabels : Nat) (ps : List (Meta V)) (d : Dict V) (h : build nlabels ps = .ok d)
    (k : Key V) (j : Nat) (hl : lookup d k = .ok j) :
    ∃ p, ps[j]? = some p ∧ (k = .name p.name ∨ k = .values p.values) := by
  obtain ⟨rfl, hn, hv⟩ := build_ok_entries nlabels ps d h
  exact (lookup_entries_iff ps hn hv k j).1 hl

/-- conversely the name and the value tuple of every patch are found -/
theorem lookup_finds (nlabels : Nat) (ps : List (Meta V)) (d : Dict V) (h : build nlabels ps = .ok d)
    (p : Meta V) (hp : p ∈ ps) : (∃ j, lookup d (.name p.name) = .ok j) ∧ (∃ j, lookup d (.values p.values) = .ok j) := by
  obtain ⟨rfl, hn, hv⟩ := build_ok_entries nlabels ps d h
  obtain ⟨j, hj⟩ := List.getElem?_of_mem hp
  exact ⟨⟨j, (lookup_entries_iff ps hn hv _ j).2 ⟨p, hj, .inl rfl⟩⟩, ⟨j, (lookup_entries_iff ps hn hv _ j).2 ⟨p, hj, .inr rfl⟩⟩⟩

/-- **verification succeeds iff the digest under every listed algorithm equals the recorded one** -/
theorem verify_iff_all_digests_equal {W : Type} (digest : String → W → String) (digests : List (String × String)) (w : W) :
    verify digest digests w = .ok () ↔ ∀ ad ∈ digests, digest ad.1 w = ad.2 := by
  have hall : digests.all (fun (alg, dg) => digest alg w == dg) = true ↔ ∀ ad ∈ digests, digest ad.1 w = ad.2 :=
    List.all_eq_true.trans (forall₂_congr fun _ _ => beq_iff_eq)
  unfold verify
  split
  · next h => exact iff_of_true rfl (hall.1 h)
  · next h => exact iff_of_false nofun (mt hall.2 h)

/-- **applying a patch = verifying, then applying that JSON patch to the given workspace** (a pure function of it) -/
theorem apply_is_verify_then_patch {W : Type} (digest : String → W → String) (digests : List (String × String))
    (d : Dict V) (patchApply : Nat → W → W) (w : W) (k : Key V) (j : Nat)
    (hv : verify digest digests w = .ok ()) (hl : lookup d k = .ok j) :
    apply digest digests d patchApply w k = .ok (patchApply j w) := by
  unfold apply; simp [hv, hl]

theorem apply_refuses_unverified {W : Type} (digest : String → W → String) (digests : List (String × String))
    (d : Dict V) (patchApply : Nat → W → W) (w : W) (k : Key V)
    (hv : verify digest digests w = .error .verification) :
    apply digest digests d patchApply w k = .error .verification := by
  unfold apply; simp [hv]

/-! **Finding F3 (repaired by `fix: PatchSet accepts patches named 'name' …`)**, two witnesses about the constructor before that
commit (`build_prefix`): with the pre-seeded dictionary a single, perfectly valid patch called `name` was refused, and the key
`'values'` was found by lookup -/
theorem prefix_rejects_patch_named_name :
    build_prefix (V := Nat) 1 [{ name := "name", values := [1] }] = .error .dupName := by decide

theorem prefix_lookup_values_succeeds :
    (build_prefix (V := Nat) 1 [{ name := "p", values := [1] }]).toOption.map (fun d => lookup d (.name "values"))
      = some (.ok 0) := by decide

/-! ### the digest's input: the key-sorted dump

`digest(obj) = hash(json.dumps(obj, sort_keys=True))`; `dump` models the serialisation as a token stream.  `J.WF`: atoms and keys
are not structural tokens (they are quoted in the real text) and the keys of every object are pairwise distinct (a Python dict).
`J.Equiv`: equal up to reordering the entries of objects at every level. -/

/-- **insensitive to key order**: documents that differ only in the order of object entries have the same dump -/
theorem canonical_dump_key_order_insensitive (x y : J) (hx : x.WF) (h : J.Equiv x y) : dump x = dump y :=
  dump_key_order_insensitive x y hx h

/-- **sensitive to every value**: two well-formed documents with the same dump are equal up to key order — changing any leaf,
key, array length or nesting changes the dump (unique parsing of the token stream) -/
theorem canonical_dump_sensitive (x y : J) (hx : x.WF) (hy : y.WF) (h : dump x = dump y) : J.Equiv x y :=
  dump_sensitive x y hx hy h

/-- hence, for a collision-free hash, the digest identifies the document up to key order -/
theorem digest_eq_iff_equiv {H : Type} (hash : List String → H) (hinj : Function.Injective hash) (x y : J) (hx : x.WF) (hy : y.WF) :
    hash (dump x) = hash (dump y) ↔ J.Equiv x y :=
  ⟨fun h => dump_sensitive x y hx hy (hinj h), fun h => congrArg hash (dump_key_order_insensitive x y hx h)⟩

end Pyhf.Props.C17
