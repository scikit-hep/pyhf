import PyhfGen.Limits
import PyhfProofs.Properties.C09
/-!
# C09 (continued) — what `upper_limits.py` hands to the interpolation and to the scan routines *now*

`PyhfGen/Limits.lean` is regenerated on every C09 run by symbolic execution of `linear_grid_scan` (three-point scan, `hypotest`
replaced by a stub returning symbolic observed / expected values, `numpy.interp` uninterpreted) and of `upper_limit` (scan routines
replaced by recorders).  The theorems state, for all real values: each of the six grid limits is `numpy.interp` of the **caller's
level** on the **reversed** curve of *its own* quantity (observed, or band entry k) against the reversed scan — i.e. the model's
`gridLimit`, about which the interpolation theorems of `C09.lean` are stated — and `upper_limit` hands the caller's level to either scan
routine, the automatic one starting from the suggested bounds of the POI (not of another parameter).
-/
namespace Pyhf.Props.C09
open Pyhf.Infer

variable (level m0 m1 m2 c0 c1 c2 e0_0 e0_1 e0_2 e0_3 e0_4 e1_0 e1_1 e1_2 e1_3 e1_4 e2_0 e2_1 e2_2 e2_3 e2_4 : ℝ)

/-- observed limit = `gridLimit` of the caller's level on the observed curve -/
theorem gen_grid_limit_obs :
    Gen.grid_limit_obs npInterp level m0 m1 m2 c0 c1 c2 e0_0 e0_1 e0_2 e0_3 e0_4 e1_0 e1_1 e1_2 e1_3 e1_4 e2_0 e2_1 e2_2 e2_3 e2_4
      = gridLimit level [m0, m1, m2] [c0, c1, c2] := rfl

/-- expected limits = `gridLimit` on the curve of the same band entry at every scan point, in band order -/
theorem gen_grid_limit_exp :
    Gen.grid_limit_exp0 npInterp level m0 m1 m2 c0 c1 c2 e0_0 e0_1 e0_2 e0_3 e0_4 e1_0 e1_1 e1_2 e1_3 e1_4 e2_0 e2_1 e2_2 e2_3 e2_4 = gridLimit level [m0, m1, m2] [e0_0, e1_0, e2_0] ∧
    Gen.grid_limit_exp1 npInterp level m0 m1 m2 c0 c1 c2 e0_0 e0_1 e0_2 e0_3 e0_4 e1_0 e1_1 e1_2 e1_3 e1_4 e2_0 e2_1 e2_2 e2_3 e2_4 = gridLimit level [m0, m1, m2] [e0_1, e1_1, e2_1] ∧
    Gen.grid_limit_exp2 npInterp level m0 m1 m2 c0 c1 c2 e0_0 e0_1 e0_2 e0_3 e0_4 e1_0 e1_1 e1_2 e1_3 e1_4 e2_0 e2_1 e2_2 e2_3 e2_4 = gridLimit level [m0, m1, m2] [e0_2, e1_2, e2_2] ∧
    Gen.grid_limit_exp3 npInterp level m0 m1 m2 c0 c1 c2 e0_0 e0_1 e0_2 e0_3 e0_4 e1_0 e1_1 e1_2 e1_3 e1_4 e2_0 e2_1 e2_2 e2_3 e2_4 = gridLimit level [m0, m1, m2] [e0_3, e1_3, e2_3] ∧
    Gen.grid_limit_exp4 npInterp level m0 m1 m2 c0 c1 c2 e0_0 e0_1 e0_2 e0_3 e0_4 e1_0 e1_1 e1_2 e1_3 e1_4 e2_0 e2_1 e2_2 e2_3 e2_4 = gridLimit level [m0, m1, m2] [e0_4, e1_4, e2_4] :=
  ⟨rfl, rfl, rfl, rfl, rfl⟩

/-- consequence: when the observed curve crosses the level in the first cell of an increasing scan, the generated limit lies in that
cell and is the chord through the two cell values (no assumption on the grid spacing) -/
theorem gen_grid_limit_obs_in_first_cell (hlo : c1 < level) (hhi : level < c0) (h12 : c2 < c1) :
    Gen.grid_limit_obs npInterp level m0 m1 m2 c0 c1 c2 e0_0 e0_1 e0_2 e0_3 e0_4 e1_0 e1_1 e1_2 e1_3 e1_4 e2_0 e2_1 e2_2 e2_3 e2_4
      = m1 + (level - c1) * ((m0 - m1) / (c0 - c1)) := by
  show npInterp level [c2, c1, c0] [m2, m1, m0] = _
  rw [npInterp_skip level c2 c1 m2 [c0] [m1, m0] hlo.le h12, npInterp_cell level c1 c0 m1 m0 [] [] hlo hhi]

/-- likewise when the observed curve crosses the level in the second cell -/
theorem gen_grid_limit_obs_in_second_cell (hlo : c2 < level) (hhi : level < c1) :
    Gen.grid_limit_obs npInterp level m0 m1 m2 c0 c1 c2 e0_0 e0_1 e0_2 e0_3 e0_4 e1_0 e1_1 e1_2 e1_3 e1_4 e2_0 e2_1 e2_2 e2_3 e2_4
      = m2 + (level - c2) * ((m1 - m2) / (c1 - c2)) := by
  show npInterp level [c2, c1, c0] [m2, m1, m0] = _
  rw [npInterp_cell level c2 c1 m2 m1 [c0] [m0] hlo hhi]

/-- `upper_limit` hands the caller's level to the automatic scan, with the suggested bounds **of the POI** as the initial bracket, and
the caller's level to the grid scan -/
theorem gen_upper_limit_forwards (tomsScan : ℝ → ℝ → ℝ → ℝ) (gridScan : ℝ → ℝ) (poi_lo poi_hi : ℝ) (scanGiven : Bool) :
    Gen.upper_limit_auto tomsScan level poi_lo poi_hi = tomsScan (upperLimitLevel level scanGiven) poi_lo poi_hi ∧
    Gen.upper_limit_grid gridScan level = gridScan (upperLimitLevel level scanGiven) := ⟨rfl, rfl⟩

end Pyhf.Props.C09
