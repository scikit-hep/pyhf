import PyhfProofs.Lemmas.PermEval
import PyhfProofs.Lemmas.PermInvExample
/-!
# C15 (continued) — reordering channels, samples, modifiers and parameter configurations changes nothing

`SpecPerm s s'`: `s'` lists the channels of `s` in another order, each channel's samples in another order, each sample's
modifiers in another order and the measurement's parameter configurations in another order (elements otherwise identical).
For an accepted specification every place where the construction path reads a raw list order (`mkConfig`'s bin count from the
first listed sample, the "last definition wins" lookups, the running `seen` list of the shapesys-reuse check, the first
declaring cell of a shape factor, `parameters.find?`) is shown to be order-independent once the duplicate checks have passed
(`Lemmas/PermInv.lean`, `PermCongr.lean`, `PermEval.lean`).  With `profile_ratio_invariant` (C15.lean) this gives invariance of every test statistic in exact arithmetic.
-/
namespace Pyhf.Props.C15

section
variable {K : Type} [Add K] [Sub K] [Mul K] [Div K] [Neg K] [OfNat K 0] [OfNat K 1]
  [OfScientific K] [LT K] [LE K] [DecidableLT K] [DecidableLE K] [BEq K]

/-- **the model, its expected rates and its log-likelihood (term by term) are invariant under reordering** -/
theorem loglik_perm_invariant (P : Prim K) (st : Settings K) {s s' : Spec K} {m : Model K} (h : SpecPerm s s')
    (hs : buildModel P s st = .ok m) :
    ∃ m', buildModel P s' st = .ok m' ∧ m'.cfg = m.cfg ∧ m'.ps = m.ps ∧ m'.slices = m.slices ∧ m'.npars = m.npars ∧
      (∀ par, expectedActual P m' par = expectedActual P m par) ∧
      (∀ par, expectedBySample P m' par = expectedBySample P m par) ∧
      (∀ par data, logpdfTerms P m' par data = logpdfTerms P m par data) := by
  obtain ⟨hb, hl⟩ := PermInv.buildModel_perm_eq P st h hs
  exact ⟨_, hb, rfl, rfl, rfl, rfl, PermInv.expectedActual_congr P hl, PermInv.expectedBySample_congr P hl,
    PermInv.logpdfTerms_congr P hl⟩

/-- the rest of the model is invariant under reordering too: the POI index, the constraint terms, the expected auxiliary data and the
three log-densities (`logpdf`, `mainlogpdf`, `constraint_logpdf`) -/
theorem loglik_perm_invariant_more (P : Prim K) (st : Settings K) {s s' : Spec K} {m : Model K} (h : SpecPerm s s')
    (hs : buildModel P s st = .ok m) :
    ∃ m', buildModel P s' st = .ok m' ∧ m'.spec = s' ∧ m'.poiIndex = m.poiIndex ∧ m'.settings = m.settings ∧
      (∀ par, constraintTerms m' par = constraintTerms m par) ∧
      (∀ par, expectedAux m' par = expectedAux m par) ∧
      (∀ par, expectedData P m' par = expectedData P m par) ∧
      (∀ L par data, logpdfT P L m' par data = logpdfT P L m par data) ∧
      (∀ L par d, mainLogpdfT P L m' par d = mainLogpdfT P L m par d) ∧
      (∀ L par aux, constraintLogpdfT L m' par aux = constraintLogpdfT L m par aux) := by
  obtain ⟨hb, hl⟩ := PermInv.buildModel_perm_eq P st h hs
  exact ⟨_, hb, rfl, rfl, rfl, PermInv.constraintTerms_congr, PermInv.expectedAux_congr, PermInv.expectedData_congr P hl,
    fun L => PermInv.logpdfT_congr P L hl, fun L => PermInv.mainLogpdfT_congr P L hl, PermInv.constraintLogpdfT_congr⟩

/-- acceptance itself does not depend on the listing order -/
theorem accept_perm_invariant (P : Prim K) (st : Settings K) {s s' : Spec K} (h : SpecPerm s s') :
    (∃ m, buildModel P s st = .ok m) ↔ (∃ m', buildModel P s' st = .ok m') :=
  buildModel_perm_accept_iff P st h

/-- the relation is symmetric (so "original" and "rewritten" can be exchanged) -/
theorem specPerm_symm {s s' : Spec K} (h : SpecPerm s s') : SpecPerm s' s := h.symm

end
end Pyhf.Props.C15
