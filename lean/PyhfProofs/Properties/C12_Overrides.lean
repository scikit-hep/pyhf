import PyhfProofs.Lemmas.Overrides
/-!
# C12 (continued) — overrides verbatim, defaults otherwise

`reduceOne` models `reduce_paramsets_requirements` for one parameter name: the (agreeing) requirements of the modifiers that
use the name, merged with the measurement's configuration entry.  `Lemmas/Overrides.lean` gives its closed form (`reduceOne_cons`) and characterises acceptance completely
(`reduceOne_ok_iff`); the theorems below are read off from it.  Quirks of the code that make the "obvious" statement false are
part of the statements (a supplied `sigmas` on a zero-size parameter set is dropped; a measurement-level `fixed` replaces the whole
per-component tuple, so `fixed: false` un-fixes the zero-width bins the builder had fixed).
-/
namespace Pyhf.Props.C12
open Pyhf.Overrides

section
variable {K : Type} [Add K] [Sub K] [Mul K] [Div K] [Neg K] [OfNat K 0] [OfNat K 1] [OfScientific K] [LT K] [DecidableLT K] [BEq K]

/-- a supplied list of initial values is taken verbatim (and has one entry per component) -/
theorem overrides_verbatim_inits (name : String) (rs : List (Req K)) (c : ParCfg K) (p : Paramset K) (v : List K)
    (h : reduceOne name rs (some c) = .ok p) (hv : c.inits = some v) : p.inits = some v ∧ v.length = p.n := by
  obtain ⟨r, rest, -, -, ⟨a, -⟩, rfl⟩ := reduceOne_ok_cons h
  exact a.merged_some hv

theorem overrides_verbatim_bounds (name : String) (rs : List (Req K)) (c : ParCfg K) (p : Paramset K) (v : List (K × K))
    (h : reduceOne name rs (some c) = .ok p) (hv : c.bounds = some v) : p.bounds = some v ∧ v.length = p.n := by
  obtain ⟨r, rest, -, -, ⟨-, a, -⟩, rfl⟩ := reduceOne_ok_cons h
  exact a.merged_some hv

theorem overrides_verbatim_auxdata (name : String) (rs : List (Req K)) (c : ParCfg K) (p : Paramset K) (v : List K)
    (h : reduceOne name rs (some c) = .ok p) (hv : c.auxdata = some v) : p.auxdata = some v ∧ v.length = p.n := by
  obtain ⟨r, rest, -, -, ⟨-, -, a, -⟩, rfl⟩ := reduceOne_ok_cons h
  exact a.merged_some hv

theorem overrides_verbatim_factors (name : String) (rs : List (Req K)) (c : ParCfg K) (p : Paramset K) (v : List K)
    (h : reduceOne name rs (some c) = .ok p) (hv : c.factors = some v) : p.factors = v ∧ v.length = p.n := by
  obtain ⟨r, rest, -, -, ⟨-, -, -, a, -⟩, rfl⟩ := reduceOne_ok_cons h
  exact (a.merged_some hv).imp_left (congrArg (Option.getD · []))

/-- supplied constraint widths are taken verbatim — except on a parameter set without components, where the code drops them -/
theorem overrides_verbatim_sigmas (name : String) (rs : List (Req K)) (c : ParCfg K) (p : Paramset K) (v : List K)
    (h : reduceOne name rs (some c) = .ok p) (hv : c.sigmas = some v) :
    p.sigmas = (if p.n = 0 then none else some v) ∧ v.length = p.n := by
  obtain ⟨r, rest, -, -, ⟨-, -, -, -, a⟩, rfl⟩ := reduceOne_ok_cons h
  obtain ⟨hm, hl⟩ := a.merged_some hv
  refine ⟨?_, hl⟩
  simp only [mergedParamset, hm, ← hl]
  cases v <;> rfl

/-- a supplied `fixed` flag applies to every component -/
theorem overrides_verbatim_fixed (name : String) (rs : List (Req K)) (c : ParCfg K) (p : Paramset K) (b : Bool)
    (h : reduceOne name rs (some c) = .ok p) (hv : c.fixed = some b) :
    p.fixed = FixedV.all b ∧ p.fixed.expand p.n = List.replicate p.n b := by
  obtain ⟨r, rest, -, -, -, rfl⟩ := reduceOne_ok_cons h
  have hf : (mergedParamset name r c).fixed = FixedV.all b := by simp only [mergedParamset, hv]
  exact ⟨hf, congrArg (FixedV.expand r.n) hf⟩

/-- without a configuration entry every attribute is the modifier type's default -/
theorem defaults_otherwise (name : String) (r : Req K) (rest : List (Req K)) (p : Paramset K)
    (h : reduceOne name (r :: rest) none = .ok p) :
    p.inits = Fld.toOption r.inits ∧ p.bounds = Fld.toOption r.bounds ∧ p.auxdata = Fld.toOption r.auxdata ∧
    p.sigmas = (Fld.toOption r.sigmas).filter (fun l => !l.isEmpty) ∧ p.factors = (Fld.toOption r.factors).getD [] ∧ p.fixed = r.fixed := by
  rw [reduceOne_eq_merged h]
  exact ⟨rfl, rfl, rfl, rfl, rfl, rfl⟩

/-- an override of the wrong length is refused with a pyhf exception -/
theorem override_wrong_length_refused (name : String) (r : Req K) (rest : List (Req K)) (c : ParCfg K)
    (hbad : (∃ v, c.inits = some v ∧ v.length ≠ r.n) ∨ (∃ v, c.bounds = some v ∧ v.length ≠ r.n) ∨
      (∃ v, c.auxdata = some v ∧ v.length ≠ r.n) ∨ (∃ v, c.factors = some v ∧ v.length ≠ r.n) ∨ (∃ v, c.sigmas = some v ∧ v.length ≠ r.n)) :
    reduceOne name (r :: rest) (some c) = .error (if rest.any (fun r' => !(r' == r)) then .invalidNameReuse else .invalidModel) := by
  refine reduceOne_rejects_inadmissible name r rest (some c) fun ⟨a1, a2, a3, a4, a5⟩ => ?_
  rcases hbad with ⟨v, hv, hl⟩ | ⟨v, hv, hl⟩ | ⟨v, hv, hl⟩ | ⟨v, hv, hl⟩ | ⟨v, hv, hl⟩
  exacts [hl (a1.merged_some hv).2, hl (a2.merged_some hv).2, hl (a3.merged_some hv).2, hl (a4.merged_some hv).2,
    hl (a5.merged_some hv).2]

/-- every parameter set of a created model is the result of `reduceOne` on its own name (so the theorems above apply to it) -/
theorem created_paramsets_are_reduced (P : Prim K) [LE K] [DecidableLE K] (s : Spec K) (cfg : Config) (ps : List (Paramset K))
    (h : createParamsets P s cfg = .ok ps) :
    ∀ p ∈ ps, ∃ rs, reduceOne p.name rs (s.parameters.find? (·.name == p.name)) = .ok p := fun p hp => by
  obtain ⟨reqs, -, hm⟩ := createParamsets_ok P s cfg ps h
  obtain ⟨nr, -, hnr⟩ := mapM_ok_right hm hp
  exact ⟨nr.2, reduceOne_name hnr ▸ hnr⟩

end
end Pyhf.Props.C12
