import PyhfProofs.Lemmas.XmlRT
/-!
# C18 — export to HistFactory XML+ROOT and re-import preserves the statistical model

Model: `PyhfModel/Xml.lean` (`exportWs` = `writexml`, `importDoc` = `readxml.parse`, the stamped file cache).
Everything below is about that model; the correspondence check ties it to the files pyhf writes and the workspace it
parses back, bit for bit.
-/
set_option linter.unusedSectionVars false
namespace Pyhf.Props.C18
open Pyhf.Xml

section
variable {K : Type} [Add K] [Sub K] [Mul K] [Div K] [OfNat K 0] [OfNat K 1] [OfScientific K] [BEq K]

/-- relative → absolute undoes absolute → relative wherever the nominal yield is not zero -/
theorem rel_abs_roundtrip (d n : ℝ) (hn : n ≠ 0) : relTo d n * n = d ∧ n * relTo d n = d := by
  rw [relTo_real]; simp only [hn, ne_eq, not_false_eq_true, if_true]; constructor <;> field_simp

/-- where the nominal yield is zero the uncertainty is exported as 0 and comes back as 0 -/
theorem rel_abs_zero_nominal (d : ℝ) : relTo d 0 * 0 = 0 ∧ (0:ℝ) * relTo d 0 = 0 := by simp

theorem bins_roundtrip (d nom : List ℝ) (h : d.length = nom.length) (hn : ∀ x ∈ nom, x ≠ 0) :
    List.zipWith (· * ·) (List.zipWith relTo d nom) nom = d ∧ List.zipWith (· * ·) nom (List.zipWith relTo d nom) = d := by
  induction d generalizing nom with
  | nil => cases nom <;> simp_all
  | cons x xs ih =>
    cases nom with
    | nil => simp at h
    | cons n ns =>
      have hn0 : n ≠ 0 := hn n (by simp)
      have := ih ns (by simpa using h) (fun y hy => hn y (by simp [hy]))
      simp only [List.zipWith_cons_cons, List.cons.injEq]
      exact ⟨⟨(rel_abs_roundtrip x n hn0).1, this.1⟩, ⟨(rel_abs_roundtrip x n hn0).2, this.2⟩⟩

/-- the luminosity width `s` is written as `LumiRelErr = s / l` (`l` the central value) and read back as `l × LumiRelErr` -/
theorem lumi_uncertainty_recovered (l s : ℝ) (hl : l ≠ 0) : l * (s / l) = s := by field_simp

/-- **every histogram the export wrote is the one the import finds under that name** -/
theorem export_then_lookup (evs : List (Ev K)) (hs : List (String × List K)) (h : runEvs evs [] = .ok hs)
    (n : String) (d : List K) (hmem : (n, d) ∈ evWrites evs) : getHist hs n = .ok d := by
  obtain ⟨rfl, hnd⟩ := runEvs_ok evs [] hs List.nodup_nil h
  rw [List.nil_append] at hnd ⊢
  rw [getHist, List.find?_eq_some_of_unique (p := fun x => x.1 == n) hmem (beq_self_eq_true n) fun b hb hpb =>
    List.inj_on_of_nodup_map hnd hb hmem (by simpa using hpb)]

/-- a name written twice is refused (uproot cannot hold two objects under one key) -/
theorem export_duplicate_refused (n : String) (d d' : List K) (pre mid post : List (String × List K)) :
    ∃ e, runEvs ((pre.map fun p => Ev.write p.1 p.2) ++ [.write n d] ++ (mid.map fun p => Ev.write p.1 p.2) ++ [.write n d'] ++
      (post.map fun p => Ev.write p.1 p.2)) ([] : List (String × List K)) = .error e := by
  cases h : runEvs _ ([] : List (String × List K)) with
  | error e => exact ⟨e, rfl⟩
  | ok hs =>
    -- a run that went through wrote no key twice
    obtain ⟨rfl, hnd⟩ := runEvs_ok _ [] hs List.nodup_nil h
    have hw : ∀ l : List (String × List K), evWrites (l.map fun p => Ev.write p.1 p.2) = l := evWrites_map_write
    simp only [evWrites_append, hw, evWrites, List.map_append, List.map_cons, List.append_assoc, List.cons_append,
      List.nil_append] at hnd
    exact ((List.nodup_cons.1 (List.nodup_append.1 hnd).2.1).1 (List.mem_append_right _ List.mem_cons_self)).elim

/-- **for every history of exports and imports, a parse sees exactly what is on disk now** — the stamped cache is
observationally the same as no cache -/
theorem cache_transparent (ops : List COp) (k : Nat) (s t : CacheState) (h : CInv k s) (hd : s.disk = t.disk) :
    crun cstep k s ops = crun refStep k t ops := by
  induction ops generalizing k s t with
  | nil => rfl
  | cons op ops ih =>
    cases op with
    | write p c => exact congrArg₂ _ rfl (ih (k + 1) _ _ (cstep_inv h _) (by simp [cstep, refStep, hd]))
    | read p =>
      refine congrArg₂ _ ?_ (ih (k + 1) _ _ (cstep_inv h _) ?_)
      · simp [(cstep_read h p).1, refStep, diskRead, hd]
      · simp [cstep_read_disk h p, refStep, hd]

theorem cinv_init : CInv 1 { disk := [], cache := [] } := by
  refine ⟨?_, ?_, ?_⟩ <;> intro p <;> simp [lookupF]

/-- witness for the code before `fix: readxml no longer serves a ROOT file from the cache after it was rewritten on disk`: its
path-only cache returns the first export after the directory was overwritten; the stamped cache returns the second -/
theorem path_only_cache_is_stale :
    crun cstepPathOnly 1 { disk := [], cache := [] } [.write "a" 5, .read "a", .write "a" 7, .read "a"] = [none, some 5, none, some 5] ∧
    crun cstep 1 { disk := [], cache := [] } [.write "a" 5, .read "a", .write "a" 7, .read "a"] = [none, some 5, none, some 7] := by
  constructor <;> decide

/-- what a modifier looks like after the round trip: the one dictated name, and bin-wise uncertainties that went
through relative form -/
def normMod (chan : String) (nom : List K) (m : WMod K) : WMod K :=
  match m.type, m.data with
  | "staterror", .bins d => { name := "staterror_" ++ chan, type := "staterror", data := .bins (List.zipWith (· * ·) (List.zipWith relTo d nom) nom) }
  | "shapesys", .bins d => { name := m.name, type := "shapesys", data := .bins (List.zipWith (· * ·) nom (List.zipWith relTo d nom)) }
  | "normfactor", _ => { name := m.name, type := "normfactor", data := .none }
  | "shapefactor", _ => { name := m.name, type := "shapefactor", data := .none }
  | _, _ => m

/-- the parameter configuration a `NormFactor` element carries -/
def normCfg (meas0 : List (WPar K)) (m : WMod K) : Option (WPar K) :=
  if m.type = "normfactor" then
    let a := normFactorAttrs meas0 m.name
    some { name := m.name, bounds := some [(a.2.1, a.2.2)], inits := some [a.1] }
  else none

/-- **modifier-level round trip**: the element written for a modifier is read back as the modifier's normal form (`normMod`, and
`normCfg` for a `NormFactor`), provided the import finds under their names the histograms the export wrote for it -/
theorem mod_roundtrip (meas0 : List (WPar K)) (chan sname : String) (nom : List K) (m : WMod K)
    (hs : List (String × List K)) (x : XMod K) (hs' : List (String × List K))
    (hex : exportMod meas0 chan sname nom m = (some x, hs'))
    (hfound : ∀ p ∈ hs', getHist hs p.1 = .ok p.2)
    (hne : ∀ d, m.type = "staterror" → m.data = .bins d → (List.zipWith relTo d nom).isEmpty = false) :
    importMod hs chan nom x = .ok (normMod chan nom m, normCfg meas0 m) := by
  obtain ⟨n, t, d⟩ := m
  unfold exportMod at hex
  split at hex
  · cases hex
  · -- one case per element type: the import finds the histograms written for it (`hfound`) and rebuilds the normal form
    split at hex <;> simp only [Prod.mk.injEq, Option.some.injEq, reduceCtorEq, false_and] at hex
    all_goals
      obtain ⟨rfl, rfl⟩ := hex
      simp only [List.forall_mem_cons, List.not_mem_nil, false_imp_iff, implies_true, and_true] at hfound
      subst_vars
      simp [importMod, normMod, normCfg, hfound, hne, bind, Except.bind, pure, Except.pure]

/-- the modifiers that have an element in the XML (everything but `lumi`, which becomes `NormalizeByTheory`) -/
def exported (meas0 : List (WPar K)) (chan : String) (s : WSample K) : List (WMod K) :=
  s.mods.filter fun m => (exportMod meas0 chan s.name s.data m).1.isSome

theorem mods_roundtrip (meas0 : List (WPar K)) (chan sname : String) (nom : List K) (hs : List (String × List K))
    (mods : List (WMod K))
    (hfound : ∀ m ∈ mods, ∀ p ∈ (exportMod meas0 chan sname nom m).2, getHist hs p.1 = .ok p.2)
    (hne : ∀ m ∈ mods, ∀ d, m.type = "staterror" → m.data = .bins d → (List.zipWith relTo d nom).isEmpty = false) :
    ((mods.map (exportMod meas0 chan sname nom)).filterMap (·.1)).mapM (importMod hs chan nom) =
      .ok ((mods.filter fun m => (exportMod meas0 chan sname nom m).1.isSome).map fun m => (normMod chan nom m, normCfg meas0 m)) := by
  rw [List.filterMap_map]
  exact mapM_filterMap_ok _ _ _ _ fun m hm x hx =>
    mod_roundtrip meas0 chan sname nom m hs x _ (Prod.ext hx rfl) (hfound m hm) (hne m hm)

/-- a sample after the round trip -/
def normSample (meas0 : List (WPar K)) (chan : String) (s : WSample K) : WSample K :=
  { name := s.name, data := s.data,
    mods := (if s.mods.any (·.type == "lumi") then [{ name := "lumi", type := "lumi", data := .none }] else []) ++
      (exported meas0 chan s).map (normMod chan s.data) }

/-- **sample-level round trip**: name and nominal yields unchanged, `lumi` first, every other modifier in its place
in normal form; the `NormFactor` elements carry the configurations -/
theorem sample_roundtrip (meas0 : List (WPar K)) (chan : String) (s : WSample K) (hs : List (String × List K))
    (hfound : ∀ p ∈ (exportSample meas0 chan s).2, getHist hs p.1 = .ok p.2)
    (hne : ∀ m ∈ s.mods, ∀ d, m.type = "staterror" → m.data = .bins d → (List.zipWith relTo d s.data).isEmpty = false) :
    importSample hs chan (exportSample meas0 chan s).1 =
      .ok (normSample meas0 chan s, (exported meas0 chan s).filterMap (normCfg meas0)) := by
  have hdata : getHist hs (histName chan s.name "") = .ok s.data :=
    hfound (histName chan s.name "", s.data) (by simp [exportSample])
  have hmods := mods_roundtrip meas0 chan s.name s.data hs s.mods
    (by intro m hm p hp
        apply hfound p
        simp only [exportSample, List.mem_append, List.mem_flatMap, List.mem_map]
        exact Or.inl ⟨_, ⟨m, hm, rfl⟩, hp⟩) hne
  simp only [importSample, exportSample, hdata, hmods, bind, Except.bind, pure, Except.pure, normSample, exported]
  rw [List.filterMap_map, List.map_map]
  rfl

def normChan (meas0 : List (WPar K)) (c : WChan K) : WChan K :=
  { name := c.name, samples := c.samples.map (normSample meas0 c.name) }

def chanCfgs (meas0 : List (WPar K)) (c : WChan K) : List (WPar K) :=
  c.samples.flatMap fun s => (exported meas0 c.name s).filterMap (normCfg meas0)

/-- every MC-statistical modifier of the channel has at least one bin: `readxml` refuses an empty one
(`RuntimeError('cannot determine stat error.')`) -/
def staterrNonEmpty (c : WChan K) : Prop :=
  ∀ s ∈ c.samples, ∀ m ∈ s.mods, ∀ d, m.type = "staterror" → m.data = .bins d → (List.zipWith relTo d s.data).isEmpty = false

/-- **channel-level round trip**: the channel comes back as `normChan`, with the observation recorded under its name and the
`NormFactor` configurations of its samples -/
theorem chan_roundtrip (meas0 : List (WPar K)) (obs : List (WObs K)) (c : WChan K) (o : WObs K)
    (hs : List (String × List K))
    (ho : obs.find? (·.name == c.name) = some o)
    (hfound : ∀ p ∈ evWrites (exportChan meas0 obs c).2, getHist hs p.1 = .ok p.2)
    (hne : staterrNonEmpty c) :
    importChan hs (exportChan meas0 obs c).1 = .ok (normChan meas0 c, { name := c.name, data := o.data }, chanCfgs meas0 c) := by
  have hobs : obs.isEmpty = false := by
    cases obs with
    | nil => simp at ho
    | cons _ _ => rfl
  have hev : evWrites (exportChan meas0 obs c).2 =
      (histName c.name "data" "", o.data) :: c.samples.flatMap (fun s => (exportSample meas0 c.name s).2) := by
    simp only [exportChan, hobs, ho, Bool.false_eq_true, if_false, evWrites, List.singleton_append, List.flatMap_map,
      evWrites_flatMap, evWrites_map_write]
  rw [hev] at hfound
  have hdata : getHist hs (histName c.name "data" "") = .ok o.data := hfound (histName c.name "data" "", o.data) (by simp)
  have hs2 : (c.samples.map fun s => (exportSample meas0 c.name s).1).mapM (importSample hs c.name) =
      .ok (c.samples.map fun s => (normSample meas0 c.name s, (exported meas0 c.name s).filterMap (normCfg meas0))) := by
    rw [List.mapM_map]
    apply mapM_ok_of_forall
    intro s hsm
    apply sample_roundtrip
    · intro p hp
      apply hfound p
      simp only [List.mem_cons, List.mem_flatMap]
      exact Or.inr ⟨s, hsm, hp⟩
    · exact hne s hsm
  simp only [importChan, exportChan, hobs, ho, Bool.false_eq_true, if_false, hdata, List.map_map, Function.comp_def] at hs2 ⊢
  simp only [hs2, bind, Except.bind, pure, Except.pure, normChan, chanCfgs, List.map_map, Function.comp_def, List.flatMap_map]

/-- the observation recorded for a channel -/
def obsDataOf (obs : List (WObs K)) (n : String) : List K :=
  match obs.find? (·.name == n) with | some o => o.data | none => []

/-- **document-level round trip**: whenever the export succeeds and the import of what it wrote succeeds, the channels
come back with the same names, samples and nominal yields (modifiers in normal form) and every observation is the
one of its channel -/
theorem doc_roundtrip_channels (w : Ws K) (d : Doc K) (w' : Ws K)
    (hex : exportWs w = .ok d) (him : importDoc d = .ok w')
    (hobs : ∀ c ∈ w.channels, ∃ o, w.observations.find? (·.name == c.name) = some o)
    (hne : ∀ c ∈ w.channels, staterrNonEmpty c) :
    w'.channels = w.channels.map (normChan (firstMeasPars w)) ∧
    w'.observations = w.channels.map (fun c => { name := c.name, data := obsDataOf w.observations c.name }) := by
  obtain ⟨hists, hrun, hex⟩ := bind_eq_ok.1 hex
  obtain ⟨ms, -, hex⟩ := bind_eq_ok.1 hex
  cases hex
  obtain ⟨rs, hrs, him⟩ := bind_eq_ok.1 him
  obtain ⟨cfgs, -, him⟩ := bind_eq_ok.1 him
  obtain ⟨ms', -, him⟩ := bind_eq_ok.1 him
  cases him
  have hch : (w.channels.map fun c => (exportChan (firstMeasPars w) w.observations c).1).mapM (importChan hists) =
      .ok (w.channels.map fun c => (normChan (firstMeasPars w) c,
        ({ name := c.name, data := obsDataOf w.observations c.name } : WObs K), chanCfgs (firstMeasPars w) c)) := by
    rw [List.mapM_map]
    refine mapM_ok_of_forall _ _ _ fun c hc => ?_
    obtain ⟨o, ho⟩ := hobs c hc
    simp only [Function.comp, obsDataOf, ho]
    refine chan_roundtrip _ w.observations c o hists ho (fun p hp => ?_) (hne c hc)
    refine export_then_lookup _ hists hrun p.1 p.2 ?_
    rw [List.flatMap_map, evWrites_flatMap]
    exact List.mem_flatMap.mpr ⟨c, hc, hp⟩
  simp only [List.map_map] at hrs
  cases hch.symm.trans hrs
  simp [List.map_map, Function.comp_def]

/-- names the ROOT naming convention carries unchanged: not empty, not `Lumi`, not beginning like a prefixed name -/
def hygienic (n : String) : Prop :=
  n ≠ "" ∧ n ≠ "Lumi" ∧ ("alpha_".toList.isPrefixOf n.toList) = false ∧ ("gamma_".toList.isPrefixOf n.toList) = false

theorem interpret_lumi : interpretRootname "Lumi" = some "lumi" := by decide

/-- **constant-parameter names survive**: the ROOT-style name written for a scalar parameter is read back as the
parameter's own name -/
theorem interpret_export (t n : String) (h : hygienic n) (ht : t ≠ "shapesys" ∧ t ≠ "staterror") :
    interpretRootname (rootPrefix t ++ n) = some n := by
  obtain ⟨hne, hl, ha, hg⟩ := h
  unfold rootPrefix
  split
  · exact interpret_alpha n hne
  · -- no prefix is written; the name itself neither is `Lumi` nor begins like a prefixed one
    rw [if_neg (by simpa using ht), String.empty_append]
    unfold interpretRootname
    simp only [hg, ha, show (n == "Lumi") = false by simpa using hl, Bool.false_eq_true, if_false]

/-- **measurement-level round trip**: name and POI unchanged; the first configuration is the luminosity with the
written centre and `centre × relative uncertainty`; the constant flags after the import are exactly the interpreted
`ParamSetting` names plus whatever the channel files contributed -/
theorem meas_roundtrip (chans : List (WChan K)) (m : WMeas K) (x : XMeas K) (others : List (WPar K)) (m' : WMeas K)
    (hex : exportMeas chans m = .ok x) (him : importMeas others x = .ok m') :
    m'.name = m.name ∧ m'.poi = m.poi ∧
    (∃ l rest, m'.pars = l :: rest ∧ l.name = "lumi" ∧ l.auxdata = some [(lumiOf m).1] ∧
      l.sigmas = some [(lumiOf m).1 * (lumiOf m).2] ∧ l.inits = some [(lumiOf m).1]) ∧
    (∃ names, constNames x = .ok names ∧
      ∀ n, (∃ p ∈ m'.pars, p.name = n ∧ p.fixed = some true) ↔ (n ∈ names ∨ ∃ p ∈ others, p.name = n ∧ p.fixed = some true)) := by
  obtain ⟨consts, -, rfl⟩ := exportMeas_ok hex
  obtain ⟨names, hn, rfl⟩ := importMeas_ok him
  obtain ⟨f, hf⟩ := foldl_applyConst_fst names (lumiEntry (lumiOf m).1 (lumiOf m).2, others)
  refine ⟨rfl, rfl, ⟨_, _, rfl, ?_⟩, names, hn, fun n => ?_⟩
  · rw [hf]; exact ⟨rfl, rfl, rfl, rfl⟩
  · -- the luminosity entry starts unflagged
    exact (foldl_applyConst_flagged names (lumiEntry (lumiOf m).1 (lumiOf m).2, others) n rfl).trans
      (or_congr_right (by simp [flagged, lumiEntry]))

/-- the names written into `ParamSetting` are read back as the names of exactly the parameters flagged constant,
for scalar parameters with hygienic names -/
theorem const_names_roundtrip (chans : List (WChan K)) (ps : List (WPar K)) (consts : List String)
    (hc : ps.mapM (constName chans) = .ok consts)
    (hok : ∀ p ∈ ps, p.name = "lumi" ∨ (hygienic p.name ∧ ∀ t, modTypeOf chans p.name = some t → t ≠ "shapesys" ∧ t ≠ "staterror")) :
    consts.mapM (fun r => match interpretRootname r with | some n => (pure n : Except Err String) | none => throw Err.valueError) =
      .ok (ps.map (·.name)) := by
  refine mapM_mapM_ok hc fun p hp c hcp => ?_
  have hone : interpretRootname c = some p.name := by
    unfold constName at hcp
    split at hcp
    · next hl => cases hcp; rw [eq_of_beq hl]; exact interpret_lumi
    · next hl =>
      split at hcp
      · next t ht =>
        cases hcp
        rcases hok p hp with h | ⟨hh, htt⟩
        · exact absurd (beq_iff_eq.2 h) hl
        · exact interpret_export t p.name hh (htt t ht)
      · cases hcp
  rw [hone]; rfl

end

/-! ### over the reals: the conversions cancel exactly -/

/-- bin-wise uncertainties (StatError, ShapeSys) come back exactly where the nominal yields are non-zero -/
theorem normMod_data_recovered (chan : String) (nom d : List ℝ) (n t : String) (h : d.length = nom.length)
    (hn : ∀ x ∈ nom, x ≠ 0) (ht : t = "staterror" ∨ t = "shapesys") :
    (normMod chan nom ({ name := n, type := t, data := .bins d } : WMod ℝ)).data = .bins d ∧
    (normMod chan nom ({ name := n, type := t, data := .bins d } : WMod ℝ)).type = t := by
  obtain ⟨h1, h2⟩ := bins_roundtrip d nom h hn
  rcases ht with rfl | rfl
  · simp [normMod, h1]
  · simp [normMod, h2]

/-- every other modifier (HistoSys variations, OverallSys factors) is carried verbatim -/
theorem normMod_identity (chan : String) (nom : List ℝ) (m : WMod ℝ)
    (ht : m.type = "histosys" ∨ m.type = "normsys") : normMod chan nom m = m := by
  cases m with
  | mk n t d =>
    rcases ht with rfl | rfl <;> simp [normMod]

/-! ### the premises are satisfiable: a concrete workspace with every modifier type goes through both directions -/

def demoWs : Ws Rat :=
  { channels := [{ name := "SR", samples := [
      { name := "signal", data := [5, 6], mods := [{ name := "mu", type := "normfactor", data := .none }, { name := "lumi", type := "lumi", data := .none }] },
      { name := "bkg", data := [50, 60], mods := [
          { name := "sysA", type := "normsys", data := .normsys (9/10) (11/10) },
          { name := "sysA", type := "histosys", data := .histosys [45, 55] [56, 66] },
          { name := "stat", type := "staterror", data := .bins [3, 4] },
          { name := "ss", type := "shapesys", data := .bins [5, 7] },
          { name := "sf", type := "shapefactor", data := .none }] }] }],
    observations := [{ name := "SR", data := [53, 66] }],
    measurements := [{ name := "meas", poi := "mu", pars := [
      { name := "lumi", auxdata := some [11/10], sigmas := some [11/500], fixed := some true },
      { name := "mu", inits := some [3/2], bounds := some [(0, 8)] },
      { name := "sysA", fixed := some true }] }] }

example : (exportWs demoWs >>= importDoc) = .ok
  { channels := [{ name := "SR", samples := [
      { name := "signal", data := [5, 6], mods := [{ name := "lumi", type := "lumi", data := .none }, { name := "mu", type := "normfactor", data := .none }] },
      { name := "bkg", data := [50, 60], mods := [
          { name := "sysA", type := "normsys", data := .normsys (9/10) (11/10) },
          { name := "sysA", type := "histosys", data := .histosys [45, 55] [56, 66] },
          { name := "staterror_SR", type := "staterror", data := .bins [3, 4] },
          { name := "ss", type := "shapesys", data := .bins [5, 7] },
          { name := "sf", type := "shapefactor", data := .none }] }] }],
    observations := [{ name := "SR", data := [53, 66] }],
    measurements := [{ name := "meas", poi := "mu", pars := [
      { name := "lumi", auxdata := some [11/10], bounds := some [(11/10 - 5 * (11/500), 11/10 + 5 * (11/500))], inits := some [11/10],
        sigmas := some [11/500], fixed := some true },
      { name := "mu", inits := some [3/2], bounds := some [(0, 8)] },
      { name := "sysA", fixed := some true }] }] } := by decide +kernel

end Pyhf.Props.C18
