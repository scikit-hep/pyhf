import PyhfGen.Infer
import PyhfProofs.Properties.C08
/-!
# C08 (continued) — the layout table holds of what `hypotest` returns *now*

`PyhfGen/Infer.lean` (regenerated on every run): `hypotest` is executed with a symbolic calculator for all 32 combinations of the four
`return_*` flags and q0 / not q0; `Gen.hypotest_returns` records, piece by piece, *which calculator quantities* come back (so also
that the main value is CLs — CLs+b for q0 —, that the tails are `[CLs+b, CLb]` — `[CLb]` for q0 —, that the median is entry 2 of the
band and the band the five expected CLs — CLs+b for q0 — values), `Gen.hypotest_bare` whether the result is a bare value.
-/
namespace Pyhf.Props.C08
open Pyhf.Infer

/-- the calculator quantities a layout item stands for -/
def itemNames (isQ0 : Bool) : Item → List String
  | .main => [if isQ0 then "CLsb" else "CLs"]
  | .tails => if isQ0 then ["CLb"] else ["CLsb", "CLb"]
  | .median => [if isQ0 then "CLsb_exp2" else "CLs_exp2"]
  | .band => (List.range 5).map fun i => (if isQ0 then "CLsb_exp" else "CLs_exp") ++ toString i
  | .calc => ["calculator"]

/-- **what the current `hypotest` returns is exactly the model's layout**, item by item, quantity by quantity, for every flag combination -/
theorem gen_hypotest_returns_eq :
    ∀ tp ex es ca q0 : Bool, Gen.hypotest_returns tp ex es ca q0 = (hypotestLayout tp ex es ca).map (itemNames q0) := by
  decide

/-- a bare value exactly when nothing extra was requested -/
theorem gen_hypotest_bare_eq :
    ∀ tp ex es ca q0 : Bool, Gen.hypotest_bare tp ex es ca q0 = hypotestIsBare tp ex es ca := by
  decide

/-- the exception class of a prerequisite failure, `"ok"` for none -/
def prereqStr : Option PrereqErr → String
  | none => "ok" | some .unspecifiedPOI => "UnspecifiedPOI" | some .invalidModel => "InvalidModel"

/-- **prerequisites**: what the current `_check_hypotest_prerequisites` (and `hypotest` with the model's suggested flags) raises for a
three-parameter model is the model's `checkPrerequisites`: `UnspecifiedPOI` without a POI, `InvalidModel` exactly when the flag *at the POI
position* is set, nothing otherwise — for every POI position and every pattern of fixed flags -/
theorem gen_hypotest_prereq_eq :
    ∀ (poi : Option (Fin 3)) (f0 f1 f2 : Bool),
      Gen.hypotest_prereq (poi.map (·.val)) f0 f1 f2 = prereqStr (checkPrerequisites (poi.map (·.val)) [f0, f1, f2]) := by
  decide

end Pyhf.Props.C08
