import PyhfProofs.Lemmas.RejectPyhf
import PyhfProofs.Lemmas.RejectPyhfCounterexample
/-!
# C20 (continued) — every refusal is one of pyhf's own exception classes

`buildModel` carries Python's failure modes as error values.  The unconditional statement "every refusal is a pyhf
exception" is **false** of the construction path as coded: a `shapesys`/`staterror` modifier that acts on no bin (all its
declaring samples have an empty `data` list) ends in `IndexError` — witnesses below, replayed on the implementation with
`pyhf.Model(spec, validate=False)`.  The JSON schema (`minItems: 1` on sample data) excludes that class, and under the
schema's condition the statement holds for every specification, every number type and every setting.
(Proofs: `Lemmas/RejectPyhf.lean`, on `Lemmas/Cells.lean`; all other non-pyhf exits of the model — `KeyError` of an empty requirement list or an
orphan modifier, both `TypeError` exits of parameter creation, `ValueError` of the access-field scatter — are proved unreachable.)
-/
namespace Pyhf.Props.C20

section
variable {K : Type} [Add K] [Sub K] [Mul K] [Div K] [Neg K] [OfNat K 0] [OfNat K 1]
  [OfScientific K] [LT K] [LE K] [DecidableLT K] [DecidableLE K] [BEq K]

/-- a refusal is a pyhf exception, or it is `IndexError` and some `shapesys`/`staterror` modifier acts on no bin -/
theorem reject_classified (P : Prim K) (s : Spec K) (st : Settings K) (e : Err) (h : buildModel P s st = .error e) :
    e.isPyhf = true ∨ (e = .pyIndexError ∧ binwiseNonempty s = false) :=
  buildModel_error_classified P s st e h

/-- every refusal is a pyhf exception under the side condition that every `shapesys`/`staterror` modifier acts on at least one bin
(weaker than the schema's condition of `reject_is_pyhf_exception` below), which rules out the `IndexError` class of
`reject_classified`; with no side condition the statement is false (`RejectCex.buildModel_error_isPyhf_refuted`) -/
theorem reject_is_pyhf_exception_of_binwiseNonempty (P : Prim K) (s : Spec K) (st : Settings K) (e : Err)
    (hne : binwiseNonempty s = true) (h : buildModel P s st = .error e) : e.isPyhf = true := by
  rcases buildModel_error_classified P s st e h with h1 | ⟨_, h2⟩
  · exact h1
  · rw [hne] at h2; cases h2

/-- **every refusal of a specification whose samples have at least one bin (the schema's `minItems: 1`) is a pyhf exception** -/
theorem reject_is_pyhf_exception (P : Prim K) (s : Spec K) (st : Settings K) (e : Err)
    (hne : dataNonempty s = true) (h : buildModel P s st = .error e) : e.isPyhf = true := by
  by_cases hd : specDuplicates s = true
  · rw [rejects_duplicates P s st hd] at h; cases h; rfl
  · exact reject_is_pyhf_exception_of_binwiseNonempty P s st e (dataNonempty_binwise s (by simpa using hd) hne) h

/-- a specification violating the side condition is never accepted (it is refused — possibly with `IndexError`) -/
theorem accept_implies_binwise_nonempty (P : Prim K) (s : Spec K) (st : Settings K) (m : Model K)
    (h : buildModel P s st = .ok m) : binwiseNonempty s = true := by
  have hb := buildModel_built P s st m h
  unfold binwiseNonempty
  rw [List.all_eq_true]
  rintro ⟨n, t⟩ hmem
  by_cases ht : t = .shapesys
  · subst ht; simp [reindex_sing s _ _ _ hb.reindex_shapesys n hmem]
  · by_cases ht' : t = .staterror
    · subst ht'; simp [reindex_sing s _ _ _ hb.reindex_staterror n hmem]
    · simp [ht, ht']

/-- witness of the excluded class: a zero-bin sample carrying a `shapesys` is refused with `IndexError` -/
theorem reject_index_error_witness_shapesys (P : Prim K) (st : Settings K) :
    buildModel P (RejectCex.cexShapesys : Spec K) st = .error .pyIndexError :=
  RejectCex.shapesys_indexError P st

/-- witness of the excluded class: a zero-bin sample carrying a `staterror` is refused with `IndexError` -/
theorem reject_index_error_witness_staterror (P : Prim K) (st : Settings K) :
    buildModel P (RejectCex.cexStaterror : Spec K) st = .error .pyIndexError :=
  RejectCex.staterror_indexError P st

end
end Pyhf.Props.C20
