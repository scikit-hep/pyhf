import PyhfGen.Model
import PyhfProofs.Properties.C01_Gen
/-!
# C10 (continued) — batched evaluation equals row-by-row evaluation, for what the tensor code computes *now*

`PyhfGen/Model.lean` (regenerated on every run): for shapes B and C, `pyhf.Model(spec, batch_size=2)` is constructed and
`expected_actualdata` evaluated on two fully symbolic parameter rows `r0`, `r1` (all yields, variations and uncertainties symbolic):
`<shape>_batch_row<t>_bin<b>`.  Each is the unbatched function `<shape>_bin<b>` of row `t`'s own parameters, term for term (`rfl`), for
all real values of both rows: a row never sees the other row's parameters (the flat index `t·npars + i`, the tiled masks and the batched
`einsum`s of every modifier type present in the shapes address the right row).
-/
namespace Pyhf.Props.C10

theorem shapeB_batch_row0_bin0_eq (s0 s1 es0 es1 b0 b1 u0 u1 eb0 eb1 hl0 hl1 hh0 hh1 r0_p_sysH r0_p_lumi r0_p_mu r0_p_uncorr_0 r0_p_uncorr_1 r0_p_stat_SR_0 r0_p_stat_SR_1 r1_p_sysH r1_p_lumi r1_p_mu r1_p_uncorr_0 r1_p_uncorr_1 r1_p_stat_SR_0 r1_p_stat_SR_1 : ℝ) :
    Gen.shapeB_batch_row0_bin0 realPrim s0 s1 es0 es1 b0 b1 u0 u1 eb0 eb1 hl0 hl1 hh0 hh1 r0_p_sysH r0_p_lumi r0_p_mu r0_p_uncorr_0 r0_p_uncorr_1 r0_p_stat_SR_0 r0_p_stat_SR_1 r1_p_sysH r1_p_lumi r1_p_mu r1_p_uncorr_0 r1_p_uncorr_1 r1_p_stat_SR_0 r1_p_stat_SR_1 = Gen.shapeB_bin0 realPrim s0 s1 es0 es1 b0 b1 u0 u1 eb0 eb1 hl0 hl1 hh0 hh1 r0_p_sysH r0_p_lumi r0_p_mu r0_p_uncorr_0 r0_p_uncorr_1 r0_p_stat_SR_0 r0_p_stat_SR_1 :=
  rfl

theorem shapeB_batch_row0_bin1_eq (s0 s1 es0 es1 b0 b1 u0 u1 eb0 eb1 hl0 hl1 hh0 hh1 r0_p_sysH r0_p_lumi r0_p_mu r0_p_uncorr_0 r0_p_uncorr_1 r0_p_stat_SR_0 r0_p_stat_SR_1 r1_p_sysH r1_p_lumi r1_p_mu r1_p_uncorr_0 r1_p_uncorr_1 r1_p_stat_SR_0 r1_p_stat_SR_1 : ℝ) :
    Gen.shapeB_batch_row0_bin1 realPrim s0 s1 es0 es1 b0 b1 u0 u1 eb0 eb1 hl0 hl1 hh0 hh1 r0_p_sysH r0_p_lumi r0_p_mu r0_p_uncorr_0 r0_p_uncorr_1 r0_p_stat_SR_0 r0_p_stat_SR_1 r1_p_sysH r1_p_lumi r1_p_mu r1_p_uncorr_0 r1_p_uncorr_1 r1_p_stat_SR_0 r1_p_stat_SR_1 = Gen.shapeB_bin1 realPrim s0 s1 es0 es1 b0 b1 u0 u1 eb0 eb1 hl0 hl1 hh0 hh1 r0_p_sysH r0_p_lumi r0_p_mu r0_p_uncorr_0 r0_p_uncorr_1 r0_p_stat_SR_0 r0_p_stat_SR_1 :=
  rfl

theorem shapeB_batch_row1_bin0_eq (s0 s1 es0 es1 b0 b1 u0 u1 eb0 eb1 hl0 hl1 hh0 hh1 r0_p_sysH r0_p_lumi r0_p_mu r0_p_uncorr_0 r0_p_uncorr_1 r0_p_stat_SR_0 r0_p_stat_SR_1 r1_p_sysH r1_p_lumi r1_p_mu r1_p_uncorr_0 r1_p_uncorr_1 r1_p_stat_SR_0 r1_p_stat_SR_1 : ℝ) :
    Gen.shapeB_batch_row1_bin0 realPrim s0 s1 es0 es1 b0 b1 u0 u1 eb0 eb1 hl0 hl1 hh0 hh1 r0_p_sysH r0_p_lumi r0_p_mu r0_p_uncorr_0 r0_p_uncorr_1 r0_p_stat_SR_0 r0_p_stat_SR_1 r1_p_sysH r1_p_lumi r1_p_mu r1_p_uncorr_0 r1_p_uncorr_1 r1_p_stat_SR_0 r1_p_stat_SR_1 = Gen.shapeB_bin0 realPrim s0 s1 es0 es1 b0 b1 u0 u1 eb0 eb1 hl0 hl1 hh0 hh1 r1_p_sysH r1_p_lumi r1_p_mu r1_p_uncorr_0 r1_p_uncorr_1 r1_p_stat_SR_0 r1_p_stat_SR_1 :=
  rfl

theorem shapeB_batch_row1_bin1_eq (s0 s1 es0 es1 b0 b1 u0 u1 eb0 eb1 hl0 hl1 hh0 hh1 r0_p_sysH r0_p_lumi r0_p_mu r0_p_uncorr_0 r0_p_uncorr_1 r0_p_stat_SR_0 r0_p_stat_SR_1 r1_p_sysH r1_p_lumi r1_p_mu r1_p_uncorr_0 r1_p_uncorr_1 r1_p_stat_SR_0 r1_p_stat_SR_1 : ℝ) :
    Gen.shapeB_batch_row1_bin1 realPrim s0 s1 es0 es1 b0 b1 u0 u1 eb0 eb1 hl0 hl1 hh0 hh1 r0_p_sysH r0_p_lumi r0_p_mu r0_p_uncorr_0 r0_p_uncorr_1 r0_p_stat_SR_0 r0_p_stat_SR_1 r1_p_sysH r1_p_lumi r1_p_mu r1_p_uncorr_0 r1_p_uncorr_1 r1_p_stat_SR_0 r1_p_stat_SR_1 = Gen.shapeB_bin1 realPrim s0 s1 es0 es1 b0 b1 u0 u1 eb0 eb1 hl0 hl1 hh0 hh1 r1_p_sysH r1_p_lumi r1_p_mu r1_p_uncorr_0 r1_p_uncorr_1 r1_p_stat_SR_0 r1_p_stat_SR_1 :=
  rfl

theorem shapeC_batch_row0_bin0_eq (c0 clo chi s0 s1 slo shi b0 b1 r0_p_k_bkg r0_p_mu r0_p_sysA r0_p_sf_SR_0 r0_p_sf_SR_1 r1_p_k_bkg r1_p_mu r1_p_sysA r1_p_sf_SR_0 r1_p_sf_SR_1 : ℝ) :
    Gen.shapeC_batch_row0_bin0 realPrim c0 clo chi s0 s1 slo shi b0 b1 r0_p_k_bkg r0_p_mu r0_p_sysA r0_p_sf_SR_0 r0_p_sf_SR_1 r1_p_k_bkg r1_p_mu r1_p_sysA r1_p_sf_SR_0 r1_p_sf_SR_1 = Gen.shapeC_bin0 realPrim c0 clo chi s0 s1 slo shi b0 b1 r0_p_k_bkg r0_p_mu r0_p_sysA r0_p_sf_SR_0 r0_p_sf_SR_1 :=
  rfl

theorem shapeC_batch_row0_bin1_eq (c0 clo chi s0 s1 slo shi b0 b1 r0_p_k_bkg r0_p_mu r0_p_sysA r0_p_sf_SR_0 r0_p_sf_SR_1 r1_p_k_bkg r1_p_mu r1_p_sysA r1_p_sf_SR_0 r1_p_sf_SR_1 : ℝ) :
    Gen.shapeC_batch_row0_bin1 realPrim c0 clo chi s0 s1 slo shi b0 b1 r0_p_k_bkg r0_p_mu r0_p_sysA r0_p_sf_SR_0 r0_p_sf_SR_1 r1_p_k_bkg r1_p_mu r1_p_sysA r1_p_sf_SR_0 r1_p_sf_SR_1 = Gen.shapeC_bin1 realPrim c0 clo chi s0 s1 slo shi b0 b1 r0_p_k_bkg r0_p_mu r0_p_sysA r0_p_sf_SR_0 r0_p_sf_SR_1 :=
  rfl

theorem shapeC_batch_row0_bin2_eq (c0 clo chi s0 s1 slo shi b0 b1 r0_p_k_bkg r0_p_mu r0_p_sysA r0_p_sf_SR_0 r0_p_sf_SR_1 r1_p_k_bkg r1_p_mu r1_p_sysA r1_p_sf_SR_0 r1_p_sf_SR_1 : ℝ) :
    Gen.shapeC_batch_row0_bin2 realPrim c0 clo chi s0 s1 slo shi b0 b1 r0_p_k_bkg r0_p_mu r0_p_sysA r0_p_sf_SR_0 r0_p_sf_SR_1 r1_p_k_bkg r1_p_mu r1_p_sysA r1_p_sf_SR_0 r1_p_sf_SR_1 = Gen.shapeC_bin2 realPrim c0 clo chi s0 s1 slo shi b0 b1 r0_p_k_bkg r0_p_mu r0_p_sysA r0_p_sf_SR_0 r0_p_sf_SR_1 :=
  rfl

theorem shapeC_batch_row1_bin0_eq (c0 clo chi s0 s1 slo shi b0 b1 r0_p_k_bkg r0_p_mu r0_p_sysA r0_p_sf_SR_0 r0_p_sf_SR_1 r1_p_k_bkg r1_p_mu r1_p_sysA r1_p_sf_SR_0 r1_p_sf_SR_1 : ℝ) :
    Gen.shapeC_batch_row1_bin0 realPrim c0 clo chi s0 s1 slo shi b0 b1 r0_p_k_bkg r0_p_mu r0_p_sysA r0_p_sf_SR_0 r0_p_sf_SR_1 r1_p_k_bkg r1_p_mu r1_p_sysA r1_p_sf_SR_0 r1_p_sf_SR_1 = Gen.shapeC_bin0 realPrim c0 clo chi s0 s1 slo shi b0 b1 r1_p_k_bkg r1_p_mu r1_p_sysA r1_p_sf_SR_0 r1_p_sf_SR_1 :=
  rfl

theorem shapeC_batch_row1_bin1_eq (c0 clo chi s0 s1 slo shi b0 b1 r0_p_k_bkg r0_p_mu r0_p_sysA r0_p_sf_SR_0 r0_p_sf_SR_1 r1_p_k_bkg r1_p_mu r1_p_sysA r1_p_sf_SR_0 r1_p_sf_SR_1 : ℝ) :
    Gen.shapeC_batch_row1_bin1 realPrim c0 clo chi s0 s1 slo shi b0 b1 r0_p_k_bkg r0_p_mu r0_p_sysA r0_p_sf_SR_0 r0_p_sf_SR_1 r1_p_k_bkg r1_p_mu r1_p_sysA r1_p_sf_SR_0 r1_p_sf_SR_1 = Gen.shapeC_bin1 realPrim c0 clo chi s0 s1 slo shi b0 b1 r1_p_k_bkg r1_p_mu r1_p_sysA r1_p_sf_SR_0 r1_p_sf_SR_1 :=
  rfl

theorem shapeC_batch_row1_bin2_eq (c0 clo chi s0 s1 slo shi b0 b1 r0_p_k_bkg r0_p_mu r0_p_sysA r0_p_sf_SR_0 r0_p_sf_SR_1 r1_p_k_bkg r1_p_mu r1_p_sysA r1_p_sf_SR_0 r1_p_sf_SR_1 : ℝ) :
    Gen.shapeC_batch_row1_bin2 realPrim c0 clo chi s0 s1 slo shi b0 b1 r0_p_k_bkg r0_p_mu r0_p_sysA r0_p_sf_SR_0 r0_p_sf_SR_1 r1_p_k_bkg r1_p_mu r1_p_sysA r1_p_sf_SR_0 r1_p_sf_SR_1 = Gen.shapeC_bin2 realPrim c0 clo chi s0 s1 slo shi b0 b1 r1_p_k_bkg r1_p_mu r1_p_sysA r1_p_sf_SR_0 r1_p_sf_SR_1 :=
  rfl

end Pyhf.Props.C10
