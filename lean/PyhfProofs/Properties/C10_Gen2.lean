import PyhfGen.Model
import PyhfProofs.Properties.C10_Gen
/-!
# C10 (continued) — batched `logpdf` and `expected_data` equal row-by-row evaluation, for what the code computes *now*

Shape F of `PyhfGen/Model.lean` has bin-wise constraints only, so the Poisson-constrained block precedes the Gaussian-constrained one in
the auxiliary data and the `[normal, poisson]` constraint viewer has to reorder.  `pyhf.Model(spec, batch_size=2)` is constructed and
`logpdf(rows, data)` — two symbolic parameter rows, **two symbolic data rows** — and `expected_data(rows)` are executed symbolically.
Each row of either result is the unbatched generated function of that row's own parameters and data, term for term (`rfl`), for all
reals: the batched split of the data by the `[main, aux]` and `[normal, poisson]` viewers, the batched gather of the constrained
parameters and the stitch of the expected auxiliary data address the right row and the right position.  The same for shape H
(luminosity held constant by the measurement, an MC-statistical bin of zero uncertainty).
-/
namespace Pyhf.Props.C10

theorem shapeF_batch_row0_logpdf_eq (lpois : ℝ → ℝ → ℝ) (lnorm : ℝ → ℝ → ℝ → ℝ) (s0 s1 es0 es1 b0 b1 u0 u1 eb0 eb1 r0_p_mu r0_p_uncorr_0 r0_p_uncorr_1 r0_p_stat_SR_0 r0_p_stat_SR_1 r1_p_mu r1_p_uncorr_0 r1_p_uncorr_1 r1_p_stat_SR_0 r1_p_stat_SR_1 r0_d0 r0_d1 r0_a0 r0_a1 r0_a2 r0_a3 r1_d0 r1_d1 r1_a0 r1_a1 r1_a2 r1_a3 : ℝ) :
    Gen.shapeF_batch_row0_logpdf realPrim lpois lnorm s0 s1 es0 es1 b0 b1 u0 u1 eb0 eb1 r0_p_mu r0_p_uncorr_0 r0_p_uncorr_1 r0_p_stat_SR_0 r0_p_stat_SR_1 r1_p_mu r1_p_uncorr_0 r1_p_uncorr_1 r1_p_stat_SR_0 r1_p_stat_SR_1 r0_d0 r0_d1 r0_a0 r0_a1 r0_a2 r0_a3 r1_d0 r1_d1 r1_a0 r1_a1 r1_a2 r1_a3 = Gen.shapeF_logpdf realPrim lpois lnorm s0 s1 es0 es1 b0 b1 u0 u1 eb0 eb1 r0_p_mu r0_p_uncorr_0 r0_p_uncorr_1 r0_p_stat_SR_0 r0_p_stat_SR_1 r0_d0 r0_d1 r0_a0 r0_a1 r0_a2 r0_a3 :=
  rfl

theorem shapeF_batch_row0_expdata0_eq (lpois : ℝ → ℝ → ℝ) (lnorm : ℝ → ℝ → ℝ → ℝ) (s0 s1 es0 es1 b0 b1 u0 u1 eb0 eb1 r0_p_mu r0_p_uncorr_0 r0_p_uncorr_1 r0_p_stat_SR_0 r0_p_stat_SR_1 r1_p_mu r1_p_uncorr_0 r1_p_uncorr_1 r1_p_stat_SR_0 r1_p_stat_SR_1 r0_d0 r0_d1 r0_a0 r0_a1 r0_a2 r0_a3 r1_d0 r1_d1 r1_a0 r1_a1 r1_a2 r1_a3 : ℝ) :
    Gen.shapeF_batch_row0_expdata0 realPrim lpois lnorm s0 s1 es0 es1 b0 b1 u0 u1 eb0 eb1 r0_p_mu r0_p_uncorr_0 r0_p_uncorr_1 r0_p_stat_SR_0 r0_p_stat_SR_1 r1_p_mu r1_p_uncorr_0 r1_p_uncorr_1 r1_p_stat_SR_0 r1_p_stat_SR_1 r0_d0 r0_d1 r0_a0 r0_a1 r0_a2 r0_a3 r1_d0 r1_d1 r1_a0 r1_a1 r1_a2 r1_a3 = Gen.shapeF_expdata0 realPrim s0 s1 es0 es1 b0 b1 u0 u1 eb0 eb1 r0_p_mu r0_p_uncorr_0 r0_p_uncorr_1 r0_p_stat_SR_0 r0_p_stat_SR_1 :=
  rfl

theorem shapeF_batch_row0_expdata1_eq (lpois : ℝ → ℝ → ℝ) (lnorm : ℝ → ℝ → ℝ → ℝ) (s0 s1 es0 es1 b0 b1 u0 u1 eb0 eb1 r0_p_mu r0_p_uncorr_0 r0_p_uncorr_1 r0_p_stat_SR_0 r0_p_stat_SR_1 r1_p_mu r1_p_uncorr_0 r1_p_uncorr_1 r1_p_stat_SR_0 r1_p_stat_SR_1 r0_d0 r0_d1 r0_a0 r0_a1 r0_a2 r0_a3 r1_d0 r1_d1 r1_a0 r1_a1 r1_a2 r1_a3 : ℝ) :
    Gen.shapeF_batch_row0_expdata1 realPrim lpois lnorm s0 s1 es0 es1 b0 b1 u0 u1 eb0 eb1 r0_p_mu r0_p_uncorr_0 r0_p_uncorr_1 r0_p_stat_SR_0 r0_p_stat_SR_1 r1_p_mu r1_p_uncorr_0 r1_p_uncorr_1 r1_p_stat_SR_0 r1_p_stat_SR_1 r0_d0 r0_d1 r0_a0 r0_a1 r0_a2 r0_a3 r1_d0 r1_d1 r1_a0 r1_a1 r1_a2 r1_a3 = Gen.shapeF_expdata1 realPrim s0 s1 es0 es1 b0 b1 u0 u1 eb0 eb1 r0_p_mu r0_p_uncorr_0 r0_p_uncorr_1 r0_p_stat_SR_0 r0_p_stat_SR_1 :=
  rfl

theorem shapeF_batch_row0_expdata2_eq (lpois : ℝ → ℝ → ℝ) (lnorm : ℝ → ℝ → ℝ → ℝ) (s0 s1 es0 es1 b0 b1 u0 u1 eb0 eb1 r0_p_mu r0_p_uncorr_0 r0_p_uncorr_1 r0_p_stat_SR_0 r0_p_stat_SR_1 r1_p_mu r1_p_uncorr_0 r1_p_uncorr_1 r1_p_stat_SR_0 r1_p_stat_SR_1 r0_d0 r0_d1 r0_a0 r0_a1 r0_a2 r0_a3 r1_d0 r1_d1 r1_a0 r1_a1 r1_a2 r1_a3 : ℝ) :
    Gen.shapeF_batch_row0_expdata2 realPrim lpois lnorm s0 s1 es0 es1 b0 b1 u0 u1 eb0 eb1 r0_p_mu r0_p_uncorr_0 r0_p_uncorr_1 r0_p_stat_SR_0 r0_p_stat_SR_1 r1_p_mu r1_p_uncorr_0 r1_p_uncorr_1 r1_p_stat_SR_0 r1_p_stat_SR_1 r0_d0 r0_d1 r0_a0 r0_a1 r0_a2 r0_a3 r1_d0 r1_d1 r1_a0 r1_a1 r1_a2 r1_a3 = Gen.shapeF_expdata2 realPrim s0 s1 es0 es1 b0 b1 u0 u1 eb0 eb1 r0_p_mu r0_p_uncorr_0 r0_p_uncorr_1 r0_p_stat_SR_0 r0_p_stat_SR_1 :=
  rfl

theorem shapeF_batch_row0_expdata3_eq (lpois : ℝ → ℝ → ℝ) (lnorm : ℝ → ℝ → ℝ → ℝ) (s0 s1 es0 es1 b0 b1 u0 u1 eb0 eb1 r0_p_mu r0_p_uncorr_0 r0_p_uncorr_1 r0_p_stat_SR_0 r0_p_stat_SR_1 r1_p_mu r1_p_uncorr_0 r1_p_uncorr_1 r1_p_stat_SR_0 r1_p_stat_SR_1 r0_d0 r0_d1 r0_a0 r0_a1 r0_a2 r0_a3 r1_d0 r1_d1 r1_a0 r1_a1 r1_a2 r1_a3 : ℝ) :
    Gen.shapeF_batch_row0_expdata3 realPrim lpois lnorm s0 s1 es0 es1 b0 b1 u0 u1 eb0 eb1 r0_p_mu r0_p_uncorr_0 r0_p_uncorr_1 r0_p_stat_SR_0 r0_p_stat_SR_1 r1_p_mu r1_p_uncorr_0 r1_p_uncorr_1 r1_p_stat_SR_0 r1_p_stat_SR_1 r0_d0 r0_d1 r0_a0 r0_a1 r0_a2 r0_a3 r1_d0 r1_d1 r1_a0 r1_a1 r1_a2 r1_a3 = Gen.shapeF_expdata3 realPrim s0 s1 es0 es1 b0 b1 u0 u1 eb0 eb1 r0_p_mu r0_p_uncorr_0 r0_p_uncorr_1 r0_p_stat_SR_0 r0_p_stat_SR_1 :=
  rfl

theorem shapeF_batch_row0_expdata4_eq (lpois : ℝ → ℝ → ℝ) (lnorm : ℝ → ℝ → ℝ → ℝ) (s0 s1 es0 es1 b0 b1 u0 u1 eb0 eb1 r0_p_mu r0_p_uncorr_0 r0_p_uncorr_1 r0_p_stat_SR_0 r0_p_stat_SR_1 r1_p_mu r1_p_uncorr_0 r1_p_uncorr_1 r1_p_stat_SR_0 r1_p_stat_SR_1 r0_d0 r0_d1 r0_a0 r0_a1 r0_a2 r0_a3 r1_d0 r1_d1 r1_a0 r1_a1 r1_a2 r1_a3 : ℝ) :
    Gen.shapeF_batch_row0_expdata4 realPrim lpois lnorm s0 s1 es0 es1 b0 b1 u0 u1 eb0 eb1 r0_p_mu r0_p_uncorr_0 r0_p_uncorr_1 r0_p_stat_SR_0 r0_p_stat_SR_1 r1_p_mu r1_p_uncorr_0 r1_p_uncorr_1 r1_p_stat_SR_0 r1_p_stat_SR_1 r0_d0 r0_d1 r0_a0 r0_a1 r0_a2 r0_a3 r1_d0 r1_d1 r1_a0 r1_a1 r1_a2 r1_a3 = Gen.shapeF_expdata4 realPrim s0 s1 es0 es1 b0 b1 u0 u1 eb0 eb1 r0_p_mu r0_p_uncorr_0 r0_p_uncorr_1 r0_p_stat_SR_0 r0_p_stat_SR_1 :=
  rfl

theorem shapeF_batch_row0_expdata5_eq (lpois : ℝ → ℝ → ℝ) (lnorm : ℝ → ℝ → ℝ → ℝ) (s0 s1 es0 es1 b0 b1 u0 u1 eb0 eb1 r0_p_mu r0_p_uncorr_0 r0_p_uncorr_1 r0_p_stat_SR_0 r0_p_stat_SR_1 r1_p_mu r1_p_uncorr_0 r1_p_uncorr_1 r1_p_stat_SR_0 r1_p_stat_SR_1 r0_d0 r0_d1 r0_a0 r0_a1 r0_a2 r0_a3 r1_d0 r1_d1 r1_a0 r1_a1 r1_a2 r1_a3 : ℝ) :
    Gen.shapeF_batch_row0_expdata5 realPrim lpois lnorm s0 s1 es0 es1 b0 b1 u0 u1 eb0 eb1 r0_p_mu r0_p_uncorr_0 r0_p_uncorr_1 r0_p_stat_SR_0 r0_p_stat_SR_1 r1_p_mu r1_p_uncorr_0 r1_p_uncorr_1 r1_p_stat_SR_0 r1_p_stat_SR_1 r0_d0 r0_d1 r0_a0 r0_a1 r0_a2 r0_a3 r1_d0 r1_d1 r1_a0 r1_a1 r1_a2 r1_a3 = Gen.shapeF_expdata5 realPrim s0 s1 es0 es1 b0 b1 u0 u1 eb0 eb1 r0_p_mu r0_p_uncorr_0 r0_p_uncorr_1 r0_p_stat_SR_0 r0_p_stat_SR_1 :=
  rfl

theorem shapeF_batch_row1_logpdf_eq (lpois : ℝ → ℝ → ℝ) (lnorm : ℝ → ℝ → ℝ → ℝ) (s0 s1 es0 es1 b0 b1 u0 u1 eb0 eb1 r0_p_mu r0_p_uncorr_0 r0_p_uncorr_1 r0_p_stat_SR_0 r0_p_stat_SR_1 r1_p_mu r1_p_uncorr_0 r1_p_uncorr_1 r1_p_stat_SR_0 r1_p_stat_SR_1 r0_d0 r0_d1 r0_a0 r0_a1 r0_a2 r0_a3 r1_d0 r1_d1 r1_a0 r1_a1 r1_a2 r1_a3 : ℝ) :
    Gen.shapeF_batch_row1_logpdf realPrim lpois lnorm s0 s1 es0 es1 b0 b1 u0 u1 eb0 eb1 r0_p_mu r0_p_uncorr_0 r0_p_uncorr_1 r0_p_stat_SR_0 r0_p_stat_SR_1 r1_p_mu r1_p_uncorr_0 r1_p_uncorr_1 r1_p_stat_SR_0 r1_p_stat_SR_1 r0_d0 r0_d1 r0_a0 r0_a1 r0_a2 r0_a3 r1_d0 r1_d1 r1_a0 r1_a1 r1_a2 r1_a3 = Gen.shapeF_logpdf realPrim lpois lnorm s0 s1 es0 es1 b0 b1 u0 u1 eb0 eb1 r1_p_mu r1_p_uncorr_0 r1_p_uncorr_1 r1_p_stat_SR_0 r1_p_stat_SR_1 r1_d0 r1_d1 r1_a0 r1_a1 r1_a2 r1_a3 :=
  rfl

theorem shapeF_batch_row1_expdata0_eq (lpois : ℝ → ℝ → ℝ) (lnorm : ℝ → ℝ → ℝ → ℝ) (s0 s1 es0 es1 b0 b1 u0 u1 eb0 eb1 r0_p_mu r0_p_uncorr_0 r0_p_uncorr_1 r0_p_stat_SR_0 r0_p_stat_SR_1 r1_p_mu r1_p_uncorr_0 r1_p_uncorr_1 r1_p_stat_SR_0 r1_p_stat_SR_1 r0_d0 r0_d1 r0_a0 r0_a1 r0_a2 r0_a3 r1_d0 r1_d1 r1_a0 r1_a1 r1_a2 r1_a3 : ℝ) :
    Gen.shapeF_batch_row1_expdata0 realPrim lpois lnorm s0 s1 es0 es1 b0 b1 u0 u1 eb0 eb1 r0_p_mu r0_p_uncorr_0 r0_p_uncorr_1 r0_p_stat_SR_0 r0_p_stat_SR_1 r1_p_mu r1_p_uncorr_0 r1_p_uncorr_1 r1_p_stat_SR_0 r1_p_stat_SR_1 r0_d0 r0_d1 r0_a0 r0_a1 r0_a2 r0_a3 r1_d0 r1_d1 r1_a0 r1_a1 r1_a2 r1_a3 = Gen.shapeF_expdata0 realPrim s0 s1 es0 es1 b0 b1 u0 u1 eb0 eb1 r1_p_mu r1_p_uncorr_0 r1_p_uncorr_1 r1_p_stat_SR_0 r1_p_stat_SR_1 :=
  rfl

theorem shapeF_batch_row1_expdata1_eq (lpois : ℝ → ℝ → ℝ) (lnorm : ℝ → ℝ → ℝ → ℝ) (s0 s1 es0 es1 b0 b1 u0 u1 eb0 eb1 r0_p_mu r0_p_uncorr_0 r0_p_uncorr_1 r0_p_stat_SR_0 r0_p_stat_SR_1 r1_p_mu r1_p_uncorr_0 r1_p_uncorr_1 r1_p_stat_SR_0 r1_p_stat_SR_1 r0_d0 r0_d1 r0_a0 r0_a1 r0_a2 r0_a3 r1_d0 r1_d1 r1_a0 r1_a1 r1_a2 r1_a3 : ℝ) :
    Gen.shapeF_batch_row1_expdata1 realPrim lpois lnorm s0 s1 es0 es1 b0 b1 u0 u1 eb0 eb1 r0_p_mu r0_p_uncorr_0 r0_p_uncorr_1 r0_p_stat_SR_0 r0_p_stat_SR_1 r1_p_mu r1_p_uncorr_0 r1_p_uncorr_1 r1_p_stat_SR_0 r1_p_stat_SR_1 r0_d0 r0_d1 r0_a0 r0_a1 r0_a2 r0_a3 r1_d0 r1_d1 r1_a0 r1_a1 r1_a2 r1_a3 = Gen.shapeF_expdata1 realPrim s0 s1 es0 es1 b0 b1 u0 u1 eb0 eb1 r1_p_mu r1_p_uncorr_0 r1_p_uncorr_1 r1_p_stat_SR_0 r1_p_stat_SR_1 :=
  rfl

theorem shapeF_batch_row1_expdata2_eq (lpois : ℝ → ℝ → ℝ) (lnorm : ℝ → ℝ → ℝ → ℝ) (s0 s1 es0 es1 b0 b1 u0 u1 eb0 eb1 r0_p_mu r0_p_uncorr_0 r0_p_uncorr_1 r0_p_stat_SR_0 r0_p_stat_SR_1 r1_p_mu r1_p_uncorr_0 r1_p_uncorr_1 r1_p_stat_SR_0 r1_p_stat_SR_1 r0_d0 r0_d1 r0_a0 r0_a1 r0_a2 r0_a3 r1_d0 r1_d1 r1_a0 r1_a1 r1_a2 r1_a3 : ℝ) :
    Gen.shapeF_batch_row1_expdata2 realPrim lpois lnorm s0 s1 es0 es1 b0 b1 u0 u1 eb0 eb1 r0_p_mu r0_p_uncorr_0 r0_p_uncorr_1 r0_p_stat_SR_0 r0_p_stat_SR_1 r1_p_mu r1_p_uncorr_0 r1_p_uncorr_1 r1_p_stat_SR_0 r1_p_stat_SR_1 r0_d0 r0_d1 r0_a0 r0_a1 r0_a2 r0_a3 r1_d0 r1_d1 r1_a0 r1_a1 r1_a2 r1_a3 = Gen.shapeF_expdata2 realPrim s0 s1 es0 es1 b0 b1 u0 u1 eb0 eb1 r1_p_mu r1_p_uncorr_0 r1_p_uncorr_1 r1_p_stat_SR_0 r1_p_stat_SR_1 :=
  rfl

theorem shapeF_batch_row1_expdata3_eq (lpois : ℝ → ℝ → ℝ) (lnorm : ℝ → ℝ → ℝ → ℝ) (s0 s1 es0 es1 b0 b1 u0 u1 eb0 eb1 r0_p_mu r0_p_uncorr_0 r0_p_uncorr_1 r0_p_stat_SR_0 r0_p_stat_SR_1 r1_p_mu r1_p_uncorr_0 r1_p_uncorr_1 r1_p_stat_SR_0 r1_p_stat_SR_1 r0_d0 r0_d1 r0_a0 r0_a1 r0_a2 r0_a3 r1_d0 r1_d1 r1_a0 r1_a1 r1_a2 r1_a3 : ℝ) :
    Gen.shapeF_batch_row1_expdata3 realPrim lpois lnorm s0 s1 es0 es1 b0 b1 u0 u1 eb0 eb1 r0_p_mu r0_p_uncorr_0 r0_p_uncorr_1 r0_p_stat_SR_0 r0_p_stat_SR_1 r1_p_mu r1_p_uncorr_0 r1_p_uncorr_1 r1_p_stat_SR_0 r1_p_stat_SR_1 r0_d0 r0_d1 r0_a0 r0_a1 r0_a2 r0_a3 r1_d0 r1_d1 r1_a0 r1_a1 r1_a2 r1_a3 = Gen.shapeF_expdata3 realPrim s0 s1 es0 es1 b0 b1 u0 u1 eb0 eb1 r1_p_mu r1_p_uncorr_0 r1_p_uncorr_1 r1_p_stat_SR_0 r1_p_stat_SR_1 :=
  rfl

theorem shapeF_batch_row1_expdata4_eq (lpois : ℝ → ℝ → ℝ) (lnorm : ℝ → ℝ → ℝ → ℝ) (s0 s1 es0 es1 b0 b1 u0 u1 eb0 eb1 r0_p_mu r0_p_uncorr_0 r0_p_uncorr_1 r0_p_stat_SR_0 r0_p_stat_SR_1 r1_p_mu r1_p_uncorr_0 r1_p_uncorr_1 r1_p_stat_SR_0 r1_p_stat_SR_1 r0_d0 r0_d1 r0_a0 r0_a1 r0_a2 r0_a3 r1_d0 r1_d1 r1_a0 r1_a1 r1_a2 r1_a3 : ℝ) :
    Gen.shapeF_batch_row1_expdata4 realPrim lpois lnorm s0 s1 es0 es1 b0 b1 u0 u1 eb0 eb1 r0_p_mu r0_p_uncorr_0 r0_p_uncorr_1 r0_p_stat_SR_0 r0_p_stat_SR_1 r1_p_mu r1_p_uncorr_0 r1_p_uncorr_1 r1_p_stat_SR_0 r1_p_stat_SR_1 r0_d0 r0_d1 r0_a0 r0_a1 r0_a2 r0_a3 r1_d0 r1_d1 r1_a0 r1_a1 r1_a2 r1_a3 = Gen.shapeF_expdata4 realPrim s0 s1 es0 es1 b0 b1 u0 u1 eb0 eb1 r1_p_mu r1_p_uncorr_0 r1_p_uncorr_1 r1_p_stat_SR_0 r1_p_stat_SR_1 :=
  rfl

theorem shapeF_batch_row1_expdata5_eq (lpois : ℝ → ℝ → ℝ) (lnorm : ℝ → ℝ → ℝ → ℝ) (s0 s1 es0 es1 b0 b1 u0 u1 eb0 eb1 r0_p_mu r0_p_uncorr_0 r0_p_uncorr_1 r0_p_stat_SR_0 r0_p_stat_SR_1 r1_p_mu r1_p_uncorr_0 r1_p_uncorr_1 r1_p_stat_SR_0 r1_p_stat_SR_1 r0_d0 r0_d1 r0_a0 r0_a1 r0_a2 r0_a3 r1_d0 r1_d1 r1_a0 r1_a1 r1_a2 r1_a3 : ℝ) :
    Gen.shapeF_batch_row1_expdata5 realPrim lpois lnorm s0 s1 es0 es1 b0 b1 u0 u1 eb0 eb1 r0_p_mu r0_p_uncorr_0 r0_p_uncorr_1 r0_p_stat_SR_0 r0_p_stat_SR_1 r1_p_mu r1_p_uncorr_0 r1_p_uncorr_1 r1_p_stat_SR_0 r1_p_stat_SR_1 r0_d0 r0_d1 r0_a0 r0_a1 r0_a2 r0_a3 r1_d0 r1_d1 r1_a0 r1_a1 r1_a2 r1_a3 = Gen.shapeF_expdata5 realPrim s0 s1 es0 es1 b0 b1 u0 u1 eb0 eb1 r1_p_mu r1_p_uncorr_0 r1_p_uncorr_1 r1_p_stat_SR_0 r1_p_stat_SR_1 :=
  rfl

theorem shapeH_batch_row0_logpdf_eq (lpois : ℝ → ℝ → ℝ) (lnorm : ℝ → ℝ → ℝ → ℝ) (s0 s1 b0 b1 e0 r0_p_lumi r0_p_mu r0_p_stat_SR_0 r0_p_stat_SR_1 r1_p_lumi r1_p_mu r1_p_stat_SR_0 r1_p_stat_SR_1 r0_d0 r0_d1 r0_a0 r0_a1 r0_a2 r1_d0 r1_d1 r1_a0 r1_a1 r1_a2 : ℝ) :
    Gen.shapeH_batch_row0_logpdf realPrim lpois lnorm s0 s1 b0 b1 e0 r0_p_lumi r0_p_mu r0_p_stat_SR_0 r0_p_stat_SR_1 r1_p_lumi r1_p_mu r1_p_stat_SR_0 r1_p_stat_SR_1 r0_d0 r0_d1 r0_a0 r0_a1 r0_a2 r1_d0 r1_d1 r1_a0 r1_a1 r1_a2 = Gen.shapeH_logpdf realPrim lpois lnorm s0 s1 b0 b1 e0 r0_p_lumi r0_p_mu r0_p_stat_SR_0 r0_p_stat_SR_1 r0_d0 r0_d1 r0_a0 r0_a1 r0_a2 :=
  rfl

theorem shapeH_batch_row0_expdata0_eq (lpois : ℝ → ℝ → ℝ) (lnorm : ℝ → ℝ → ℝ → ℝ) (s0 s1 b0 b1 e0 r0_p_lumi r0_p_mu r0_p_stat_SR_0 r0_p_stat_SR_1 r1_p_lumi r1_p_mu r1_p_stat_SR_0 r1_p_stat_SR_1 r0_d0 r0_d1 r0_a0 r0_a1 r0_a2 r1_d0 r1_d1 r1_a0 r1_a1 r1_a2 : ℝ) :
    Gen.shapeH_batch_row0_expdata0 realPrim lpois lnorm s0 s1 b0 b1 e0 r0_p_lumi r0_p_mu r0_p_stat_SR_0 r0_p_stat_SR_1 r1_p_lumi r1_p_mu r1_p_stat_SR_0 r1_p_stat_SR_1 r0_d0 r0_d1 r0_a0 r0_a1 r0_a2 r1_d0 r1_d1 r1_a0 r1_a1 r1_a2 = Gen.shapeH_expdata0 realPrim s0 s1 b0 b1 e0 r0_p_lumi r0_p_mu r0_p_stat_SR_0 r0_p_stat_SR_1 :=
  rfl

theorem shapeH_batch_row0_expdata1_eq (lpois : ℝ → ℝ → ℝ) (lnorm : ℝ → ℝ → ℝ → ℝ) (s0 s1 b0 b1 e0 r0_p_lumi r0_p_mu r0_p_stat_SR_0 r0_p_stat_SR_1 r1_p_lumi r1_p_mu r1_p_stat_SR_0 r1_p_stat_SR_1 r0_d0 r0_d1 r0_a0 r0_a1 r0_a2 r1_d0 r1_d1 r1_a0 r1_a1 r1_a2 : ℝ) :
    Gen.shapeH_batch_row0_expdata1 realPrim lpois lnorm s0 s1 b0 b1 e0 r0_p_lumi r0_p_mu r0_p_stat_SR_0 r0_p_stat_SR_1 r1_p_lumi r1_p_mu r1_p_stat_SR_0 r1_p_stat_SR_1 r0_d0 r0_d1 r0_a0 r0_a1 r0_a2 r1_d0 r1_d1 r1_a0 r1_a1 r1_a2 = Gen.shapeH_expdata1 realPrim s0 s1 b0 b1 e0 r0_p_lumi r0_p_mu r0_p_stat_SR_0 r0_p_stat_SR_1 :=
  rfl

theorem shapeH_batch_row0_expdata2_eq (lpois : ℝ → ℝ → ℝ) (lnorm : ℝ → ℝ → ℝ → ℝ) (s0 s1 b0 b1 e0 r0_p_lumi r0_p_mu r0_p_stat_SR_0 r0_p_stat_SR_1 r1_p_lumi r1_p_mu r1_p_stat_SR_0 r1_p_stat_SR_1 r0_d0 r0_d1 r0_a0 r0_a1 r0_a2 r1_d0 r1_d1 r1_a0 r1_a1 r1_a2 : ℝ) :
    Gen.shapeH_batch_row0_expdata2 realPrim lpois lnorm s0 s1 b0 b1 e0 r0_p_lumi r0_p_mu r0_p_stat_SR_0 r0_p_stat_SR_1 r1_p_lumi r1_p_mu r1_p_stat_SR_0 r1_p_stat_SR_1 r0_d0 r0_d1 r0_a0 r0_a1 r0_a2 r1_d0 r1_d1 r1_a0 r1_a1 r1_a2 = Gen.shapeH_expdata2 realPrim s0 s1 b0 b1 e0 r0_p_lumi r0_p_mu r0_p_stat_SR_0 r0_p_stat_SR_1 :=
  rfl

theorem shapeH_batch_row0_expdata3_eq (lpois : ℝ → ℝ → ℝ) (lnorm : ℝ → ℝ → ℝ → ℝ) (s0 s1 b0 b1 e0 r0_p_lumi r0_p_mu r0_p_stat_SR_0 r0_p_stat_SR_1 r1_p_lumi r1_p_mu r1_p_stat_SR_0 r1_p_stat_SR_1 r0_d0 r0_d1 r0_a0 r0_a1 r0_a2 r1_d0 r1_d1 r1_a0 r1_a1 r1_a2 : ℝ) :
    Gen.shapeH_batch_row0_expdata3 realPrim lpois lnorm s0 s1 b0 b1 e0 r0_p_lumi r0_p_mu r0_p_stat_SR_0 r0_p_stat_SR_1 r1_p_lumi r1_p_mu r1_p_stat_SR_0 r1_p_stat_SR_1 r0_d0 r0_d1 r0_a0 r0_a1 r0_a2 r1_d0 r1_d1 r1_a0 r1_a1 r1_a2 = Gen.shapeH_expdata3 realPrim s0 s1 b0 b1 e0 r0_p_lumi r0_p_mu r0_p_stat_SR_0 r0_p_stat_SR_1 :=
  rfl

theorem shapeH_batch_row0_expdata4_eq (lpois : ℝ → ℝ → ℝ) (lnorm : ℝ → ℝ → ℝ → ℝ) (s0 s1 b0 b1 e0 r0_p_lumi r0_p_mu r0_p_stat_SR_0 r0_p_stat_SR_1 r1_p_lumi r1_p_mu r1_p_stat_SR_0 r1_p_stat_SR_1 r0_d0 r0_d1 r0_a0 r0_a1 r0_a2 r1_d0 r1_d1 r1_a0 r1_a1 r1_a2 : ℝ) :
    Gen.shapeH_batch_row0_expdata4 realPrim lpois lnorm s0 s1 b0 b1 e0 r0_p_lumi r0_p_mu r0_p_stat_SR_0 r0_p_stat_SR_1 r1_p_lumi r1_p_mu r1_p_stat_SR_0 r1_p_stat_SR_1 r0_d0 r0_d1 r0_a0 r0_a1 r0_a2 r1_d0 r1_d1 r1_a0 r1_a1 r1_a2 = Gen.shapeH_expdata4 realPrim s0 s1 b0 b1 e0 r0_p_lumi r0_p_mu r0_p_stat_SR_0 r0_p_stat_SR_1 :=
  rfl

theorem shapeH_batch_row1_logpdf_eq (lpois : ℝ → ℝ → ℝ) (lnorm : ℝ → ℝ → ℝ → ℝ) (s0 s1 b0 b1 e0 r0_p_lumi r0_p_mu r0_p_stat_SR_0 r0_p_stat_SR_1 r1_p_lumi r1_p_mu r1_p_stat_SR_0 r1_p_stat_SR_1 r0_d0 r0_d1 r0_a0 r0_a1 r0_a2 r1_d0 r1_d1 r1_a0 r1_a1 r1_a2 : ℝ) :
    Gen.shapeH_batch_row1_logpdf realPrim lpois lnorm s0 s1 b0 b1 e0 r0_p_lumi r0_p_mu r0_p_stat_SR_0 r0_p_stat_SR_1 r1_p_lumi r1_p_mu r1_p_stat_SR_0 r1_p_stat_SR_1 r0_d0 r0_d1 r0_a0 r0_a1 r0_a2 r1_d0 r1_d1 r1_a0 r1_a1 r1_a2 = Gen.shapeH_logpdf realPrim lpois lnorm s0 s1 b0 b1 e0 r1_p_lumi r1_p_mu r1_p_stat_SR_0 r1_p_stat_SR_1 r1_d0 r1_d1 r1_a0 r1_a1 r1_a2 :=
  rfl

theorem shapeH_batch_row1_expdata0_eq (lpois : ℝ → ℝ → ℝ) (lnorm : ℝ → ℝ → ℝ → ℝ) (s0 s1 b0 b1 e0 r0_p_lumi r0_p_mu r0_p_stat_SR_0 r0_p_stat_SR_1 r1_p_lumi r1_p_mu r1_p_stat_SR_0 r1_p_stat_SR_1 r0_d0 r0_d1 r0_a0 r0_a1 r0_a2 r1_d0 r1_d1 r1_a0 r1_a1 r1_a2 : ℝ) :
    Gen.shapeH_batch_row1_expdata0 realPrim lpois lnorm s0 s1 b0 b1 e0 r0_p_lumi r0_p_mu r0_p_stat_SR_0 r0_p_stat_SR_1 r1_p_lumi r1_p_mu r1_p_stat_SR_0 r1_p_stat_SR_1 r0_d0 r0_d1 r0_a0 r0_a1 r0_a2 r1_d0 r1_d1 r1_a0 r1_a1 r1_a2 = Gen.shapeH_expdata0 realPrim s0 s1 b0 b1 e0 r1_p_lumi r1_p_mu r1_p_stat_SR_0 r1_p_stat_SR_1 :=
  rfl

theorem shapeH_batch_row1_expdata1_eq (lpois : ℝ → ℝ → ℝ) (lnorm : ℝ → ℝ → ℝ → ℝ) (s0 s1 b0 b1 e0 r0_p_lumi r0_p_mu r0_p_stat_SR_0 r0_p_stat_SR_1 r1_p_lumi r1_p_mu r1_p_stat_SR_0 r1_p_stat_SR_1 r0_d0 r0_d1 r0_a0 r0_a1 r0_a2 r1_d0 r1_d1 r1_a0 r1_a1 r1_a2 : ℝ) :
    Gen.shapeH_batch_row1_expdata1 realPrim lpois lnorm s0 s1 b0 b1 e0 r0_p_lumi r0_p_mu r0_p_stat_SR_0 r0_p_stat_SR_1 r1_p_lumi r1_p_mu r1_p_stat_SR_0 r1_p_stat_SR_1 r0_d0 r0_d1 r0_a0 r0_a1 r0_a2 r1_d0 r1_d1 r1_a0 r1_a1 r1_a2 = Gen.shapeH_expdata1 realPrim s0 s1 b0 b1 e0 r1_p_lumi r1_p_mu r1_p_stat_SR_0 r1_p_stat_SR_1 :=
  rfl

theorem shapeH_batch_row1_expdata2_eq (lpois : ℝ → ℝ → ℝ) (lnorm : ℝ → ℝ → ℝ → ℝ) (s0 s1 b0 b1 e0 r0_p_lumi r0_p_mu r0_p_stat_SR_0 r0_p_stat_SR_1 r1_p_lumi r1_p_mu r1_p_stat_SR_0 r1_p_stat_SR_1 r0_d0 r0_d1 r0_a0 r0_a1 r0_a2 r1_d0 r1_d1 r1_a0 r1_a1 r1_a2 : ℝ) :
    Gen.shapeH_batch_row1_expdata2 realPrim lpois lnorm s0 s1 b0 b1 e0 r0_p_lumi r0_p_mu r0_p_stat_SR_0 r0_p_stat_SR_1 r1_p_lumi r1_p_mu r1_p_stat_SR_0 r1_p_stat_SR_1 r0_d0 r0_d1 r0_a0 r0_a1 r0_a2 r1_d0 r1_d1 r1_a0 r1_a1 r1_a2 = Gen.shapeH_expdata2 realPrim s0 s1 b0 b1 e0 r1_p_lumi r1_p_mu r1_p_stat_SR_0 r1_p_stat_SR_1 :=
  rfl

theorem shapeH_batch_row1_expdata3_eq (lpois : ℝ → ℝ → ℝ) (lnorm : ℝ → ℝ → ℝ → ℝ) (s0 s1 b0 b1 e0 r0_p_lumi r0_p_mu r0_p_stat_SR_0 r0_p_stat_SR_1 r1_p_lumi r1_p_mu r1_p_stat_SR_0 r1_p_stat_SR_1 r0_d0 r0_d1 r0_a0 r0_a1 r0_a2 r1_d0 r1_d1 r1_a0 r1_a1 r1_a2 : ℝ) :
    Gen.shapeH_batch_row1_expdata3 realPrim lpois lnorm s0 s1 b0 b1 e0 r0_p_lumi r0_p_mu r0_p_stat_SR_0 r0_p_stat_SR_1 r1_p_lumi r1_p_mu r1_p_stat_SR_0 r1_p_stat_SR_1 r0_d0 r0_d1 r0_a0 r0_a1 r0_a2 r1_d0 r1_d1 r1_a0 r1_a1 r1_a2 = Gen.shapeH_expdata3 realPrim s0 s1 b0 b1 e0 r1_p_lumi r1_p_mu r1_p_stat_SR_0 r1_p_stat_SR_1 :=
  rfl

theorem shapeH_batch_row1_expdata4_eq (lpois : ℝ → ℝ → ℝ) (lnorm : ℝ → ℝ → ℝ → ℝ) (s0 s1 b0 b1 e0 r0_p_lumi r0_p_mu r0_p_stat_SR_0 r0_p_stat_SR_1 r1_p_lumi r1_p_mu r1_p_stat_SR_0 r1_p_stat_SR_1 r0_d0 r0_d1 r0_a0 r0_a1 r0_a2 r1_d0 r1_d1 r1_a0 r1_a1 r1_a2 : ℝ) :
    Gen.shapeH_batch_row1_expdata4 realPrim lpois lnorm s0 s1 b0 b1 e0 r0_p_lumi r0_p_mu r0_p_stat_SR_0 r0_p_stat_SR_1 r1_p_lumi r1_p_mu r1_p_stat_SR_0 r1_p_stat_SR_1 r0_d0 r0_d1 r0_a0 r0_a1 r0_a2 r1_d0 r1_d1 r1_a0 r1_a1 r1_a2 = Gen.shapeH_expdata4 realPrim s0 s1 b0 b1 e0 r1_p_lumi r1_p_mu r1_p_stat_SR_0 r1_p_stat_SR_1 :=
  rfl

/-- the unbatched expected data of shapeF: the two rates, then — in auxiliary-data order — the Poisson rates `γ·τ` of the uncorrelated-shape
bins and the means `γ` of the MC-statistical bins -/
theorem shapeF_expected_data_layout (s0 s1 es0 es1 b0 b1 u0 u1 eb0 eb1 p_mu p_uncorr_0 p_uncorr_1 p_stat_SR_0 p_stat_SR_1 : ℝ) :
    Gen.shapeF_expdata0 realPrim s0 s1 es0 es1 b0 b1 u0 u1 eb0 eb1 p_mu p_uncorr_0 p_uncorr_1 p_stat_SR_0 p_stat_SR_1 = Gen.shapeF_bin0 realPrim s0 s1 es0 es1 b0 b1 u0 u1 eb0 eb1 p_mu p_uncorr_0 p_uncorr_1 p_stat_SR_0 p_stat_SR_1 ∧
    Gen.shapeF_expdata1 realPrim s0 s1 es0 es1 b0 b1 u0 u1 eb0 eb1 p_mu p_uncorr_0 p_uncorr_1 p_stat_SR_0 p_stat_SR_1 = Gen.shapeF_bin1 realPrim s0 s1 es0 es1 b0 b1 u0 u1 eb0 eb1 p_mu p_uncorr_0 p_uncorr_1 p_stat_SR_0 p_stat_SR_1 ∧
    Gen.shapeF_expdata2 realPrim s0 s1 es0 es1 b0 b1 u0 u1 eb0 eb1 p_mu p_uncorr_0 p_uncorr_1 p_stat_SR_0 p_stat_SR_1 = p_uncorr_0 * (b0 ^ (2:ℝ) / u0 ^ (2:ℝ)) ∧
    Gen.shapeF_expdata3 realPrim s0 s1 es0 es1 b0 b1 u0 u1 eb0 eb1 p_mu p_uncorr_0 p_uncorr_1 p_stat_SR_0 p_stat_SR_1 = p_uncorr_1 * (b1 ^ (2:ℝ) / u1 ^ (2:ℝ)) ∧
    Gen.shapeF_expdata4 realPrim s0 s1 es0 es1 b0 b1 u0 u1 eb0 eb1 p_mu p_uncorr_0 p_uncorr_1 p_stat_SR_0 p_stat_SR_1 = p_stat_SR_0 ∧ Gen.shapeF_expdata5 realPrim s0 s1 es0 es1 b0 b1 u0 u1 eb0 eb1 p_mu p_uncorr_0 p_uncorr_1 p_stat_SR_0 p_stat_SR_1 = p_stat_SR_1 :=
  ⟨rfl, rfl, by simp only [Gen.shapeF_expdata2, realPrim_pow, sci_2], by simp only [Gen.shapeF_expdata3, realPrim_pow, sci_2], rfl, rfl⟩

end Pyhf.Props.C10
