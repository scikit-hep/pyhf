import PyhfProofs.Lemmas.PermEval
/-!
# C16 (continued) — sorting is likelihood-preserving and canonical under permutation of the input lists

`Workspace.sorted` reorders channels, samples, modifiers (and the measurement lists); the model built from a reordered
specification is the same model (`PermInv.buildModel_perm_eq`: same channel summary, parameter sets and slices, same expected
rates and the same log-likelihood term by term) — for *every* reordering, in particular the one `sorted` performs, and for two
workspaces that differ only by a permutation of their lists.
-/
namespace Pyhf.Props.C16

section
variable {K : Type} [Add K] [Sub K] [Mul K] [Div K] [Neg K] [OfNat K 0] [OfNat K 1]
  [OfScientific K] [LT K] [LE K] [DecidableLT K] [DecidableLE K] [BEq K]

/-- the likelihood of a reordered (e.g. sorted) workspace specification equals the original's, for all parameters and data -/
theorem sorted_loglik (P : Prim K) (L : LogPrim K) (st : Settings K) {s s' : Spec K} {m : Model K} (h : SpecPerm s s')
    (hs : buildModel P s st = .ok m) :
    ∃ m', buildModel P s' st = .ok m' ∧ m'.cfg = m.cfg ∧ m'.ps = m.ps ∧
      ∀ par data, logpdfT P L m' par data = logpdfT P L m par data := by
  obtain ⟨hb, hl⟩ := PermInv.buildModel_perm_eq P st h hs
  exact ⟨_, hb, rfl, rfl, PermInv.logpdfT_congr P L hl⟩

/-- two specifications that are permutations of one another are accepted together -/
theorem sorted_accept_iff (P : Prim K) (st : Settings K) {s s' : Spec K} (h : SpecPerm s s') :
    (∃ m, buildModel P s st = .ok m) ↔ (∃ m', buildModel P s' st = .ok m') :=
  buildModel_perm_accept_iff P st h

end
end Pyhf.Props.C16
