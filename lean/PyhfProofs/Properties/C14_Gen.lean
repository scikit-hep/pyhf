import PyhfGen.Toys
import PyhfProofs.Properties.C14
import PyhfProofs.Lemmas.RealPrim
import Mathlib.Tactic.NormNum.OfScientific
import Mathlib.Tactic.NormNum
/-!
# C14 (continued) — the toy calculator as it is written *now*

`PyhfGen/Toys.lean` is regenerated on every C14 run by symbolic execution of `calculators.py`:

* `EmpiricalDistribution([s0, s1, s2]).pvalue(v)` through the symbolic tensor backend, every outcome of the comparisons enumerated.
  Theorem: it is the double nearest to `#{sᵢ ≥ v} / 3` — the model's `empiricalCounts` numerator (ties included), for all real samples
  and values.  (The code divides two floating-point numbers; the leaves of the generated tree are the literals it produced.)
* `ToyCalculator.distributions(poi)` with the conditional fits, the sampling and the statistic uninterpreted: the signal-like
  pseudo-data are drawn at the conditional fit of the **tested** value, the background-like ones at the conditional fit of `μ = 0`
  (`μ = 1` for the discovery statistic) — the model's `toyFitMus` — and every statistic evaluation tests the tested value on its own
  pseudo-dataset; `teststatistic` evaluates the same statistic at the tested value on the observed data; `pvalues` returns
  `(CLs+b, CLb, CLs+b / CLb)` read off the two distributions at the same observed value.
-/
namespace Pyhf.Props.C14
open Pyhf.Infer

/-- the doubles nearest to 0/3, 1/3, 2/3, 3/3 (written out exactly) -/
noncomputable def thirds : List ℝ := [0.0, 0.333333333333333314829616256247390992939472198486328125, 0.66666666666666662965923251249478198587894439697265625, 1.0]

/-- each entry of `thirds` is within 2⁻⁵⁴ of the exact fraction -/
theorem thirds_accurate :
    |thirds.getD 0 0 - 0 / 3| ≤ 1 / 2 ^ 54 ∧ |thirds.getD 1 0 - 1 / 3| ≤ 1 / 2 ^ 54 ∧
    |thirds.getD 2 0 - 2 / 3| ≤ 1 / 2 ^ 54 ∧ |thirds.getD 3 0 - 3 / 3| ≤ 1 / 2 ^ 54 := by
  simp only [thirds, List.getD_cons_zero, List.getD_cons_succ, abs_le]
  norm_num

/-- **tail fraction**: what the code returns for three samples is the (rounded) fraction of samples `≥ v` -/
theorem gen_emp_pvalue3 (s0 s1 s2 v : ℝ) :
    Gen.emp_pvalue3 s0 s1 s2 v = thirds.getD (empiricalCounts [s0, s1, s2] v).1 0 := by
  by_cases h0 : v ≤ s0 <;> by_cases h1 : v ≤ s1 <;> by_cases h2 : v ≤ s2 <;>
    simp only [Gen.emp_pvalue3, empiricalCounts, List.filter, h0, h1, h2, decide_true, decide_false, if_true, if_false] <;> rfl

/-- the generated tail fraction is 1 when the value is at or below every sample, 0 when it is above every sample, and ties count -/
theorem gen_emp_pvalue3_extremes (s0 s1 s2 v : ℝ) :
    ((v ≤ s0 ∧ v ≤ s1 ∧ v ≤ s2) → Gen.emp_pvalue3 s0 s1 s2 v = 1) ∧ ((s0 < v ∧ s1 < v ∧ s2 < v) → Gen.emp_pvalue3 s0 s1 s2 v = 0) ∧
    Gen.emp_pvalue3 s0 s0 s0 s0 = 1 := by
  refine ⟨?_, ?_, ?_⟩
  · rintro ⟨h0, h1, h2⟩; rw [Gen.emp_pvalue3, if_pos h0, if_pos h1, if_pos h2, sci_1]
  · rintro ⟨h0, h1, h2⟩; rw [Gen.emp_pvalue3, if_neg h0.not_ge, if_neg h1.not_ge, if_neg h2.not_ge, sci_0]
  · rw [Gen.emp_pvalue3, if_pos le_rfl, if_pos le_rfl, if_pos le_rfl, sci_1]

variable (condFit : ℝ → ℝ) (toyData : ℝ → ℝ → ℝ) (tsf : ℝ → ℝ → ℝ) (poi : ℝ)

/-- **toy wiring, q̃**: generating fits at `toyFitMus`, every evaluation tests `poi` on its own pseudo-dataset -/
theorem gen_toy_wiring_qtilde :
    Gen.toy_qtilde_signal_samples condFit toyData tsf poi = [0, 1].map (fun j => tsf poi (toyData (condFit (toyFitMus .qtilde poi).1) j)) ∧
    Gen.toy_qtilde_bkg_samples condFit toyData tsf poi = [0, 1].map (fun j => tsf poi (toyData (condFit (toyFitMus .qtilde poi).2) j)) := by
  simp only [Gen.toy_qtilde_signal_samples, Gen.toy_qtilde_bkg_samples, sci_0, sci_1]
  exact ⟨rfl, rfl⟩

theorem gen_toy_wiring_q :
    Gen.toy_q_signal_samples condFit toyData tsf poi = [0, 1].map (fun j => tsf poi (toyData (condFit (toyFitMus .q poi).1) j)) ∧
    Gen.toy_q_bkg_samples condFit toyData tsf poi = [0, 1].map (fun j => tsf poi (toyData (condFit (toyFitMus .q poi).2) j)) := by
  simp only [Gen.toy_q_signal_samples, Gen.toy_q_bkg_samples, sci_0, sci_1]
  exact ⟨rfl, rfl⟩

/-- **toy wiring, q0**: the background-like toys come from the conditional fit of `μ = 1` -/
theorem gen_toy_wiring_q0 :
    Gen.toy_q0_signal_samples condFit toyData tsf poi = [0, 1].map (fun j => tsf poi (toyData (condFit (toyFitMus .q0 poi).1) j)) ∧
    Gen.toy_q0_bkg_samples condFit toyData tsf poi = [0, 1].map (fun j => tsf poi (toyData (condFit (toyFitMus .q0 poi).2) j)) := by
  simp only [Gen.toy_q0_signal_samples, Gen.toy_q0_bkg_samples, sci_0, sci_1]
  exact ⟨rfl, rfl⟩

/-- the observed statistic is the same statistic at the tested value on the observed data -/
theorem gen_toy_teststat (obs : ℝ) :
    Gen.toy_qtilde_teststat tsf obs poi = tsf poi obs ∧ Gen.toy_q_teststat tsf obs poi = tsf poi obs ∧ Gen.toy_q0_teststat tsf obs poi = tsf poi obs :=
  ⟨rfl, rfl, rfl⟩

/-- `(CLs+b, CLb, CLs)`: both tail fractions at the same observed value, CLs their quotient -/
theorem gen_toy_pvalues (pvalSB pvalB : ℝ → ℝ) (t : ℝ) :
    Gen.toy_pvalues pvalSB pvalB t = [pvalSB t, pvalB t, pvalSB t / pvalB t] := rfl

end Pyhf.Props.C14
