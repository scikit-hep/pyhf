import PyhfGen.CliTable
import PyhfModel.Cli
/-!
# C19 (continued) — the option table of the command line as `click` declares it *now*

`PyhfGen/CliTable.lean` is regenerated on every C19 run from the running `click` command objects of `pyhf.cli` (one row per parameter
of every modelled subcommand: option strings, destination, `multiple`, flag, `nargs`, choices, default).  The theorems below are kernel
evaluations over that table: the validity predicates of the hand-written glue model (`PyhfModel/Cli.lean`) accept **exactly** the
values click accepts; the defaults the model's `InferOpts` assumes are click's defaults; the options the model treats as lists /
dictionaries are exactly the repeatable (`multiple`) ones, `rename`'s being pairs; and the model's `Args` constructors carry every
option of their subcommand apart from input / output locations (so "every option reaches the call" is a statement about all options
that exist).  Adding, removing or renaming an option, a choice or a default in the source breaks one of these equalities.
-/
namespace Pyhf.Props.C19
open Pyhf.Cli Pyhf.Gen

def paramsOf (cmd : String) : List CliParam := ((cliTable.find? (·.1 == cmd)).map (·.2)).getD []
def param (cmd dest : String) : Option CliParam := (paramsOf cmd).find? (·.dest == dest)
def choicesOf (cmd dest : String) : List String := ((param cmd dest).map (·.choices)).getD []
def defaultOf (cmd dest : String) : Option String := (param cmd dest).bind (·.default)
/-- destinations of the options (not arguments) that do not name an input / output location -/
def semanticOptions (cmd : String) : List String :=
  ((paramsOf cmd).filter fun p => p.isOption && !(["output_file", "output_dir", "basedir", "mount"].contains p.dest)).map (·.dest)

/-- the subcommands the model covers are the ones that exist (contrib / completions aside) -/
theorem gen_subcommands :
    cliTable.map (·.1) = ["cls", "combine", "digest", "fit", "inspect", "json2xml", "patchset apply", "patchset extract",
                          "patchset inspect", "patchset verify", "prune", "rename", "sort", "xml2json"] := by decide +kernel

/-- **choices**: the model's validity predicates accept exactly click's choice lists (fit and cls share them) -/
theorem gen_choices :
    choicesOf "fit" "backend" = backendChoices ∧ choicesOf "cls" "backend" = backendChoices ∧
    (∀ o ∈ ["scipy", "minuit", "other"], (choicesOf "fit" "optimizer").contains o = (o == "scipy" || o == "minuit")) ∧
    choicesOf "fit" "optimizer" = ["scipy", "minuit"] ∧ choicesOf "cls" "optimizer" = ["scipy", "minuit"] ∧
    choicesOf "cls" "test_stat" = ["q", "qtilde"] ∧ choicesOf "cls" "calctype" = ["asymptotics", "toybased"] ∧
    choicesOf "combine" "join" = ["none", "outer", "left outer", "right outer"] ∧
    choicesOf "prune" "modifier_type" = ["histosys", "lumi", "normfactor", "normsys", "shapefactor", "shapesys", "staterror"] := by decide +kernel

/-- the model's `inferOK`, `clsOK`, `joinOK` are click's checks: each accepts exactly the members of click's choice lists -/
theorem gen_validity (o : InferOpts) (ts ct j : String) :
    inferOK o = ((choicesOf "fit" "backend").contains o.backend && (choicesOf "fit" "optimizer").contains o.optimizer) ∧
    clsOK ts ct = ((choicesOf "cls" "test_stat").contains ts && (choicesOf "cls" "calctype").contains ct) ∧
    joinOK j = (choicesOf "combine" "join").contains j := by
  obtain ⟨h1, -, -, h2, -, h3, h4, h5, -⟩ := gen_choices
  rw [h1, h2, h3, h4, h5]
  simp only [inferOK, clsOK, joinOK, List.contains_cons, List.contains_nil, Bool.or_false, and_self]

/-- **defaults**: what the model's `InferOpts` and the harness assume when an option is absent is what click fills in -/
theorem gen_defaults :
    defaultOf "fit" "backend" = some ({} : InferOpts).backend ∧ defaultOf "fit" "optimizer" = some ({} : InferOpts).optimizer ∧
    defaultOf "cls" "backend" = some "numpy" ∧ defaultOf "cls" "optimizer" = some "scipy" ∧
    defaultOf "fit" "measurement" = none ∧ defaultOf "cls" "measurement" = none ∧ defaultOf "inspect" "measurement" = none ∧
    defaultOf "cls" "test_poi" = some "1.0" ∧ defaultOf "cls" "test_stat" = some "qtilde" ∧ defaultOf "cls" "calctype" = some "asymptotics" ∧
    defaultOf "fit" "value" = some "False" ∧ defaultOf "combine" "join" = some "none" ∧ defaultOf "combine" "merge_channels" = some "False" ∧
    defaultOf "digest" "algorithm" = some "sha256" ∧ defaultOf "patchset extract" "with_metadata" = some "False" ∧
    defaultOf "xml2json" "track_progress" = some "True" ∧ defaultOf "xml2json" "validation_as_error" = some "True" ∧
    defaultOf "json2xml" "specroot" = some "config" ∧ defaultOf "json2xml" "dataroot" = some "data" ∧
    defaultOf "json2xml" "resultprefix" = some "FitConfig" ∧
    defaultOf "fit" "workspace" = some "-" ∧ defaultOf "cls" "workspace" = some "-" := by decide +kernel

/-- **repeatable options**: exactly the ones the model carries as lists (patches, optconf, digest algorithms, prune selections) or as
lists of pairs (`rename`: two values per occurrence) -/
theorem gen_multiple :
    ((paramsOf "fit").filter (·.multiple)).map (·.dest) = ["patch", "optconf"] ∧
    ((paramsOf "cls").filter (·.multiple)).map (·.dest) = ["patch", "optconf"] ∧
    ((paramsOf "digest").filter (·.multiple)).map (·.dest) = ["algorithm"] ∧
    ((paramsOf "json2xml").filter (·.multiple)).map (·.dest) = ["patch"] ∧
    ((paramsOf "prune").filter (·.multiple)).map (fun p => (p.dest, p.nargs)) = [("channel", 1), ("sample", 1), ("modifier", 1), ("modifier_type", 1), ("measurement", 1)] ∧
    ((paramsOf "rename").filter (·.multiple)).map (fun p => (p.dest, p.nargs)) = [("channel", 2), ("sample", 2), ("modifier", 2), ("measurement", 2)] := by decide +kernel

/-- **no option the model does not know about**: per subcommand, the options other than input / output locations are exactly the
fields of the corresponding `Args` constructor, in declaration order -/
theorem gen_options_covered :
    semanticOptions "fit" = ["measurement", "patch", "value", "backend", "optimizer", "optconf"] ∧
    semanticOptions "cls" = ["measurement", "patch", "test_poi", "test_stat", "calctype", "backend", "optimizer", "optconf"] ∧
    semanticOptions "inspect" = ["measurement"] ∧
    semanticOptions "prune" = ["channel", "sample", "modifier", "modifier_type", "measurement"] ∧
    semanticOptions "rename" = ["channel", "sample", "modifier", "measurement"] ∧
    semanticOptions "combine" = ["join", "merge_channels"] ∧
    semanticOptions "digest" = ["algorithm", "output_json"] ∧
    semanticOptions "sort" = [] ∧
    semanticOptions "patchset extract" = ["name", "with_metadata"] ∧ semanticOptions "patchset apply" = ["name"] ∧
    semanticOptions "patchset verify" = [] ∧ semanticOptions "patchset inspect" = [] ∧
    semanticOptions "xml2json" = ["track_progress", "validation_as_error"] ∧
    semanticOptions "json2xml" = ["specroot", "dataroot", "resultprefix", "patch"] := by decide +kernel

/-- flags are exactly the Boolean fields of the model -/
theorem gen_flags :
    (cliTable.flatMap fun c => (c.2.filter (·.isFlag)).map fun p => (c.1, p.dest))
      = [("combine", "merge_channels"), ("digest", "output_json"), ("fit", "value"), ("patchset extract", "with_metadata"),
         ("xml2json", "track_progress"), ("xml2json", "validation_as_error")] := by decide +kernel

end Pyhf.Props.C19
