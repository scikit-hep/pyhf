import PyhfProofs.Lemmas.PermEval
/-!
# Reordering invariance — a concrete instance at `Float`, and two specifications to try refusals on

* `specA`, `specB`: the same two-channel workspace listed in two orders (channels, samples, modifiers and
  `parameters` all permuted); `specA_perm_specB : SpecPerm specA specB`.  `report s` renders what
  `Props.C15.loglik_perm_invariant` speaks of (summary, parameter sets, slices, rates, likelihood terms at `θ`, `obs`),
  to be evaluated by hand on `specA` and `specB`; nothing is evaluated when the file is checked.
* `badA`, `badB`: one channel whose two samples have different lengths, listed in the two orders.  `channel_nbins` is
  read off the **first listed** sample (`mixins.py: len(channel['samples'][0]['data'])`), so which check fails first can
  follow the sample order; both orders are refused (one refusal implies the other: `buildModel_perm_accept_iff`), and `PermInv.buildModel_perm` needs
  its one-length-per-channel hypothesis.  No statement about their exception classes is proved here.
-/
namespace Pyhf.PermInv.Example

def mMu : Modifier Float := { name := "mu", type := .normfactor }
def mLumi : Modifier Float := { name := "lumi", type := .lumi }
def mH : Modifier Float := { name := "jes", type := .histosys, lo := [9.0, 18.0], hi := [11.0, 23.0] }
def mN : Modifier Float := { name := "xs", type := .normsys, lo := [0.9], hi := [1.1] }
def mS : Modifier Float := { name := "mcstat", type := .staterror, lo := [1.0, 2.0] }
def mU : Modifier Float := { name := "uncorr", type := .shapesys, lo := [1.5, 2.5] }
def mN2 : Modifier Float := { name := "xs", type := .normsys, lo := [0.95], hi := [1.07] }

def sigA : Sample Float := { name := "signal", data := [5.0, 7.0], mods := [mMu, mLumi] }
def sigB : Sample Float := { name := "signal", data := [5.0, 7.0], mods := [mLumi, mMu] }
def bkgA : Sample Float := { name := "background", data := [10.0, 20.0], mods := [mH, mN, mS, mLumi] }
def bkgB : Sample Float := { name := "background", data := [10.0, 20.0], mods := [mN, mH, mS, mLumi] }
def crA : Sample Float := { name := "background", data := [50.0, 60.0], mods := [mU, mN2] }
def crB : Sample Float := { name := "background", data := [50.0, 60.0], mods := [mN2, mU] }

def pLumi : ParCfg Float :=
  { name := "lumi", inits := some [1.0], bounds := some [(0.5, 1.5)], auxdata := some [1.0], sigmas := some [0.02] }
def pMu : ParCfg Float := { name := "mu", inits := some [1.0], bounds := some [(0.0, 5.0)] }

def specA : Spec Float :=
  { channels := [{ name := "SR", samples := [sigA, bkgA] }, { name := "CR", samples := [crA] }],
    parameters := [pLumi, pMu] }
def specB : Spec Float :=
  { channels := [{ name := "CR", samples := [crB] }, { name := "SR", samples := [bkgB, sigB] }],
    parameters := [pMu, pLumi] }

theorem specA_perm_specB : SpecPerm specA specB := by
  refine ⟨⟨[{ name := "CR", samples := [crA] }, { name := "SR", samples := [sigA, bkgA] }], List.Perm.swap _ _ _, ?_⟩,
    List.Perm.swap _ _ _⟩
  refine .cons ⟨rfl, ⟨[crA], List.Perm.refl _, .cons ⟨rfl, rfl, List.Perm.swap _ _ _⟩ .nil⟩⟩
    (.cons ⟨rfl, ⟨[bkgA, sigA], List.Perm.swap _ _ _, ?_⟩⟩ .nil)
  exact .cons ⟨rfl, rfl, List.Perm.swap _ _ _⟩ (.cons ⟨rfl, rfl, List.Perm.swap _ _ _⟩ .nil)

def st : Settings Float := { poi := some "mu" }
def θ : Nat → Float := fun i => [1.02, 0.3, 1.2, -0.4, 0.97, 1.05, 1.1, 0.9].getD i 1.0
def obs : List Float := [16.0, 30.0, 52.0, 61.0, 1.0, 0.0, 0.0, 1.0, 1.0, 1111.0, 576.0]

def report (s : Spec Float) : String :=
  match buildModel floatPrim s st with
  | .error e => "refused: " ++ e.str
  | .ok m =>
    let bits (xs : List Float) := xs.map Float.toBits
    toString (repr m.cfg) ++ "\n" ++ toString (m.ps.map (·.name)) ++ " " ++ toString m.slices ++ " npars=" ++ toString m.npars ++
      " poi=" ++ toString m.poiIndex ++ "\n" ++
      toString (bits (expectedActual floatPrim m θ)) ++ "\n" ++
      toString ((expectedBySample floatPrim m θ).map bits) ++ "\n" ++
      toString ((logpdfTerms floatPrim m θ obs).map fun (k, d, a, b) => (repr k, bits [d, a, b]))

/-! ### refused specifications: the exception class can follow the sample order -/

def hBad : Modifier Float := { name := "jes", type := .histosys, lo := [1.0], hi := [2.0, 3.0] }
def xa : Sample Float := { name := "a", data := [1.0, 2.0], mods := [hBad] }
def xb : Sample Float := { name := "b", data := [1.0, 2.0, 3.0], mods := [mMu] }
def badA : Spec Float := { channels := [{ name := "SR", samples := [xa, xb] }] }
def badB : Spec Float := { channels := [{ name := "SR", samples := [xb, xa] }] }

end Pyhf.PermInv.Example
