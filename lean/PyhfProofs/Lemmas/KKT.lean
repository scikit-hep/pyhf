import Mathlib.Analysis.SpecialFunctions.Log.Basic
import Mathlib.Algebra.BigOperators.Group.Finset.Basic
import Mathlib.Algebra.Order.BigOperators.Group.Finset
import Mathlib.Tactic.Linarith
import Mathlib.Tactic.Ring
import Mathlib.Tactic.FieldSimp
/-! First-order (convexity) inequalities for the Poisson and Gaussian terms of twice the negative log-likelihood, closed under
sums and non-negative scaling: the vocabulary of the C05 optimality certificate. -/
namespace Pyhf.KKT

variable {ι : Type} [Fintype ι]

/-- `f` lies above its linearisation at `θ₀` with slope vector `g`, on the set `S` (first-order convexity inequality) -/
def FirstOrder (f : (ι → ℝ) → ℝ) (g : ι → ℝ) (θ₀ : ι → ℝ) (S : Set (ι → ℝ)) : Prop :=
  ∀ θ ∈ S, f θ₀ + ∑ j, g j * (θ j - θ₀ j) ≤ f θ

def box (lb ub : ι → ℝ) : Set (ι → ℝ) := {θ | ∀ j, lb j ≤ θ j ∧ θ j ≤ ub j}

/-- approximate Karush–Kuhn–Tucker sign conditions at a point of the box -/
def KKTeps (g θ₀ lb ub : ι → ℝ) (ε : ℝ) : Prop :=
  ∀ j, (lb j < θ₀ j → g j ≤ ε) ∧ (θ₀ j < ub j → -ε ≤ g j)

theorem FirstOrder.add {f₁ f₂ : (ι → ℝ) → ℝ} {g₁ g₂ θ₀ : ι → ℝ} {S : Set (ι → ℝ)}
    (h₁ : FirstOrder f₁ g₁ θ₀ S) (h₂ : FirstOrder f₂ g₂ θ₀ S) :
    FirstOrder (fun θ => f₁ θ + f₂ θ) (fun j => g₁ j + g₂ j) θ₀ S := by
  intro θ hθ
  simp only [add_mul, Finset.sum_add_distrib]
  linarith [h₁ θ hθ, h₂ θ hθ]

theorem FirstOrder.smul {f : (ι → ℝ) → ℝ} {g θ₀ : ι → ℝ} {S : Set (ι → ℝ)} (c : ℝ) (hc : 0 ≤ c)
    (h : FirstOrder f g θ₀ S) : FirstOrder (fun θ => c * f θ) (fun j => c * g j) θ₀ S := by
  intro θ hθ
  simp only [mul_assoc, ← Finset.mul_sum]
  linarith [mul_le_mul_of_nonneg_left (h θ hθ) hc]

theorem FirstOrder.sum {κ : Type} (s : Finset κ) (f : κ → (ι → ℝ) → ℝ) (g : κ → ι → ℝ) (θ₀ : ι → ℝ) (S : Set (ι → ℝ))
    (h : ∀ k ∈ s, FirstOrder (f k) (g k) θ₀ S) :
    FirstOrder (fun θ => ∑ k ∈ s, f k θ) (fun j => ∑ k ∈ s, g k j) θ₀ S := by
  classical
  induction s using Finset.induction_on with
  | empty => intro θ _; simp
  | insert a s ha ih =>
    simp only [Finset.sum_insert ha]
    exact (h a (Finset.mem_insert_self a s)).add (ih fun k hk => h k (Finset.mem_insert_of_mem hk))

/-- scalar Poisson term `t − n log t` lies above its tangent (from `log x ≤ x − 1`) -/
theorem poisson_scalar (n s t : ℝ) (hn : 0 ≤ n) (hs : 0 < s) (ht : 0 < t) :
    (s - n * Real.log s) + (1 - n / s) * (t - s) ≤ t - n * Real.log t := by
  have hlog : Real.log (t / s) ≤ t / s - 1 := Real.log_le_sub_one_of_pos (div_pos ht hs)
  rw [Real.log_div ht.ne' hs.ne'] at hlog
  have : n * (Real.log t - Real.log s) ≤ n * (t / s - 1) := mul_le_mul_of_nonneg_left hlog hn
  have e : (1 - n / s) * (t - s) = (t - s) - n * (t / s - 1) := by field_simp
  rw [e]; linarith

def affine (c : ℝ) (a : ι → ℝ) (θ : ι → ℝ) : ℝ := c + ∑ j, a j * θ j

/-- **Poisson main term with an affine rate**: `ν(θ) − n log ν(θ)` lies above its linearisation wherever the rate is positive -/
theorem poisson_affine_first_order (n c : ℝ) (a θ₀ : ι → ℝ) (hn : 0 ≤ n) (S : Set (ι → ℝ))
    (hpos : ∀ θ ∈ S, 0 < affine c a θ) (h0 : 0 < affine c a θ₀) :
    FirstOrder (fun θ => affine c a θ - n * Real.log (affine c a θ)) (fun j => (1 - n / affine c a θ₀) * a j) θ₀ S := by
  intro θ hθ
  have h := poisson_scalar n (affine c a θ₀) (affine c a θ) hn h0 (hpos θ hθ)
  have e : ∑ j, (1 - n / affine c a θ₀) * a j * (θ j - θ₀ j) = (1 - n / affine c a θ₀) * (affine c a θ - affine c a θ₀) := by
    unfold affine
    rw [add_sub_add_left_eq_sub, ← Finset.sum_sub_distrib, Finset.mul_sum]
    apply Finset.sum_congr rfl; intro j _; ring
  rw [e]; exact h

/-- **Gaussian constraint term** `((θ_k − a)/σ)²` lies above its linearisation everywhere -/
theorem gauss_first_order [DecidableEq ι] (k : ι) (aux σ : ℝ) (θ₀ : ι → ℝ) (S : Set (ι → ℝ)) :
    FirstOrder (fun θ => ((θ k - aux) / σ) ^ 2) (fun j => if j = k then 2 * (θ₀ k - aux) / σ ^ 2 else 0) θ₀ S := by
  intro θ _
  simp only [ite_mul, zero_mul, Finset.sum_ite_eq', Finset.mem_univ, if_true]
  have : ((θ k - aux) / σ) ^ 2 - ((θ₀ k - aux) / σ) ^ 2 - 2 * (θ₀ k - aux) / σ ^ 2 * (θ k - θ₀ k) = ((θ k - θ₀ k) / σ) ^ 2 := by
    ring
  linarith [sq_nonneg ((θ k - θ₀ k) / σ)]

variable [DecidableEq ι] {β κ : Type} [Fintype β] [Fintype κ]

/-- twice the negative log-likelihood of a model whose rates are affine in the parameters, up to parameter-independent
constants: Poisson terms (main bins and Poisson-constrained auxiliary measurements alike) indexed by `β` with counts `n`,
and Gaussian constraint terms indexed by `κ` on the components `gk` -/
noncomputable def twoNllAffine (n c : β → ℝ) (a : β → ι → ℝ) (gk : κ → ι) (aux σ : κ → ℝ) (θ : ι → ℝ) : ℝ :=
  2 * ∑ b, (affine (c b) (a b) θ - n b * Real.log (affine (c b) (a b) θ)) + ∑ k, ((θ (gk k) - aux k) / σ k) ^ 2

/-- the gradient of `twoNllAffine` at `θ₀`, written out; what is proved about it is that it is a slope vector in the sense
of `FirstOrder` (`C05.twoNllAffine_first_order`) -/
noncomputable def gradAffine (n c : β → ℝ) (a : β → ι → ℝ) (gk : κ → ι) (aux σ : κ → ℝ) (θ₀ : ι → ℝ) (j : ι) : ℝ :=
  2 * ∑ b, (1 - n b / affine (c b) (a b) θ₀) * a b j + ∑ k, (if j = gk k then 2 * (θ₀ (gk k) - aux k) / σ k ^ 2 else 0)

end Pyhf.KKT
