import PyhfProofs.Lemmas.Build
import PyhfProofs.Lemmas.Canon
import PyhfProofs.Lemmas.ReqDict
import PyhfProofs.Lemmas.Overrides
import PyhfProofs.Lemmas.Staterror
/-!
# The declaring cells of an accepted construction and the sizes of their parameter sets

After the duplicate checks and a clean walk, every listed modifier is declared in a cell (channel, sample) that the sorted walk
finds again, an uncorrelated-shape modifier in exactly one; every builder entry has its parameter set, of the size the cell asks
for; and for a bin-wise constrained modifier that size is the number of bins its mask selects (`reindex_shapesys_entry`,
`reindex_staterror_entry`).  Generic in the number type.
-/
set_option linter.unusedSectionVars false
namespace Pyhf
open List

section
variable {K : Type} [Add K] [Sub K] [Mul K] [Div K] [Neg K] [OfNat K 0] [OfNat K 1]
  [OfScientific K] [LT K] [LE K] [DecidableLT K] [DecidableLE K] [BEq K]

/-! ## parameter-set creation -/

theorem mapM_ok_find {β : Type} {f : String × β → Except Err (Paramset K)} (hk : ∀ a b, f a = .ok b → b.name = a.1)
    (n : String) : ∀ (l : List (String × β)) (res : List (Paramset K)), l.mapM f = .ok res →
      ∀ a, l.find? (·.1 == n) = some a → ∃ b, res.find? (·.name == n) = some b ∧ f a = .ok b
  | [], _, _, a, ha => by cases ha
  | a0 :: l, res, h, a, ha => by
    rw [List.mapM_cons, bind_eq_ok] at h
    obtain ⟨b0, hb0, h⟩ := h
    obtain ⟨bs, hbs, h⟩ := bind_eq_ok.mp h
    cases h
    rw [List.find?_cons] at ha ⊢
    rw [hk a0 b0 hb0]
    split at ha
    · cases ha; exact ⟨b0, rfl, hb0⟩
    · exact mapM_ok_find hk n l bs hbs a ha

theorem paramset_of_builder_entry (P : Prim K) (s : Spec K) (cfg : Config) (ps : List (Paramset K))
    (hc : createParamsets P s cfg = .ok ps) (t : ModType) :
    ∃ bl, builderReqs P s cfg t = .ok bl ∧ ∀ e ∈ bl, ∃ p, ps.find? (·.name == e.1) = some p ∧ p.n = e.2.n := by
  obtain ⟨reqs, hreqs, hm⟩ := createParamsets_ok P s cfg ps hc
  obtain ⟨hin, -, hall⟩ := requiredParamsets_spec P s cfg reqs hreqs
  obtain ⟨bl, hb⟩ := hall t
  refine ⟨bl, hb, fun e he => ?_⟩
  obtain ⟨rs, hl, hmem⟩ := hin t bl hb e he
  obtain ⟨a, hfd, rfl⟩ := Option.map_eq_some_iff.mp hl
  obtain ⟨p, hp, hred⟩ := mapM_ok_find (fun _ _ h => Overrides.reduceOne_name h) e.1 reqs ps hm a hfd
  exact ⟨p, hp, (Overrides.reduceOne_size_all hred e.2 hmem).symm⟩

/-! ## table lengths after a clean walk -/

theorem maskTab_nomTab_length (s : Spec K) (cfg : Config) (n : String) (t : ModType) (sm : String) :
    (maskTab s cfg n t sm).length = (nomTab s cfg sm).length := by
  simp only [maskTab, nomTab, blocks, List.length_flatMap]
  exact congrArg List.sum (List.map_congr_left fun c _ => maskBlk_length s cfg n t sm c)

theorem nomTab_length (s : Spec K) (h : walkError s (mkConfig s) = none) (sm : String)
    (hsm : sm ∈ (mkConfig s).samples) : (nomTab s (mkConfig s) sm).length = (mkConfig s).nmain := by
  rw [mkConfig_nbOf_sum, nomTab, blocks, List.length_flatMap]
  exact congrArg List.sum (List.map_congr_left fun c hc =>
    (nominalLengthsOK_iff s _).mp (walk_nominal s _ h) c hc sm hsm)

theorem uncrtTab_length (s : Spec K) (cfg : Config) (t : ModType) (ht : t = .shapesys ∨ t = .staterror)
    (h : finalizeLengthsOK s cfg t = true)
    (n : String) (hn : (n, t) ∈ cfg.modifiers) (sm : String) (hsm : sm ∈ cfg.samples) :
    (uncrtTab s cfg n t sm).length = (nomTab s cfg sm).length := by
  have h := List.all_eq_true.mp (List.all_eq_true.mp h (n, t) (List.mem_filter.mpr ⟨hn, beq_self_eq_true t⟩)) sm hsm
  rcases ht with rfl | rfl <;> exact (eq_of_beq h).symm

/-! ## slice sizes -/

theorem selection_parSlices_length (ps : List (Paramset K)) (n : String) :
    (selection (parSlices ps) n).length = ((ps.find? (·.name == n)).map (·.n)).getD 0 := by
  have h := mkSlices_go_find n (ps.map fun p => (p.name, p.n)) 0
  rw [List.find?_map, Option.map_map] at h
  have h' : (ps.find? (·.name == n)).map (·.n) = _ := h.symm
  unfold selection sliceOf parSlices mkSlices
  simp only [List.length_map, List.length_range]
  rw [h']
  cases (mkSlices.go (ps.map fun p => (p.name, p.n)) 0).find? (·.1 == n) <;> rfl

/-! ## reading the raw specification through the "last definition wins" dictionaries -/

theorem findMod_exists (x : Sample K) (m : Modifier K) (hm : m ∈ x.mods) :
    ∃ m', findMod x m.name m.type = some m' := by
  cases h : findMod x m.name m.type with
  | some m' => exact ⟨m', rfl⟩
  | none =>
    have := (PermInv.lastSome_none _ _).mp h m hm
    simp only [beq_self_eq_true, Bool.and_self, Bool.true_eq_false] at this

theorem declared_of_mem (s : Spec K) (hd : specDuplicates s = false) (n : String) (t : ModType)
    (h : (n, t) ∈ (mkConfig s).modifiers) :
    ∃ c ∈ (mkConfig s).channels, ∃ sm ∈ (mkConfig s).samples, ∃ x m,
      findSample s c sm = some x ∧ findMod x n t = some m := by
  obtain ⟨ch, hch, x, hx, m, hm, rfl, rfl⟩ := (PermInv.mem_cfg_modifiers s n t).mp h
  obtain ⟨m', hm'⟩ := findMod_exists x m hm
  exact ⟨ch.name, (PermInv.mem_cfg_channels s _).mpr ⟨ch, hch, rfl⟩, x.name, (PermInv.mem_cfg_samples s _).mpr ⟨ch, hch, x, hx, rfl⟩, x, m',
    PermInv.findSample_of_nd s ((PermInv.specDuplicates_false_iff s).mp hd) ch hch x hx, hm'⟩

/-! ## an uncorrelated-shape modifier is declared in exactly one cell -/

def hasSh (n : String) (x : Sample K) : Prop := ∃ m ∈ x.mods, m.type = ModType.shapesys ∧ m.name = n

open PermInv in
theorem shapesys_unique (s : Spec K) (hr : shapesysReuse s = false) (n : String)
    (ch ch' : Channel K) (hch : ch ∈ s.channels) (hch' : ch' ∈ s.channels)
    (x x' : Sample K) (hx : x ∈ ch.samples) (hx' : x' ∈ ch'.samples) (hs : hasSh n x) (hs' : hasSh n x') :
    ch = ch' ∧ x = x' := by
  rw [shapesysReuse_false_iff, allMods, List.pairwise_flatMap, List.pairwise_flatMap] at hr
  obtain ⟨-, hin, hout⟩ := hr
  have hclash : ∀ a b : Sample K, hasSh n a → hasSh n b → ¬ ∀ m ∈ a.mods, ∀ m' ∈ b.mods, NoClash m m' :=
    fun a b ⟨m, hm, ht, hn⟩ ⟨m', hm', ht', hn'⟩ h =>
      h m hm m' hm' ⟨by rw [ht']; rfl, by unfold modKey; rw [ht, ht', hn, hn']⟩
  have hsymm : ∀ a b : Sample K, (∀ m ∈ a.mods, ∀ m' ∈ b.mods, NoClash m m') → ∀ m ∈ b.mods, ∀ m' ∈ a.mods, NoClash m m' :=
    fun a b h m hm m' hm' => (h m' hm' m hm).symm
  -- `Pairwise.forall` wants the relation symmetric (the anonymous constructor is that instance): `NoClash.symm`, lifted to all
  -- pairs of modifiers of two samples, and to two channels
  have hcc : ch = ch' := by
    by_contra hne
    exact hclash x x' hs hs' (@List.Pairwise.forall _ _ _ ⟨fun a b h y hy z hz => hsymm _ _ (h z hz y hy)⟩ hout ch hch ch' hch' hne x hx x' hx')
  subst hcc
  refine ⟨rfl, ?_⟩
  by_contra hne
  exact hclash x x' hs hs' (@List.Pairwise.forall _ _ _ ⟨hsymm⟩ (hin ch hch) x hx x' hx' hne)

theorem shapesys_cell_unique (s : Spec K) (hr : shapesysReuse s = false) (n : String)
    (c c' sm sm' : String) (x x' : Sample K)
    (hf : findSample s c sm = some x) (hf' : findSample s c' sm' = some x')
    (hm : (findMod x n .shapesys).isSome = true) (hm' : (findMod x' n .shapesys).isSome = true) :
    c = c' ∧ sm = sm' ∧ x = x' := by
  obtain ⟨ch, hch, rfl, hx, rfl⟩ := PermInv.findSample_some s c sm x hf
  obtain ⟨ch', hch', rfl, hx', rfl⟩ := PermInv.findSample_some s c' sm' x' hf'
  obtain ⟨m, hm⟩ := Option.isSome_iff_exists.mp hm
  obtain ⟨m', hm'⟩ := Option.isSome_iff_exists.mp hm'
  obtain ⟨h1, h2, h3⟩ := PermInv.findMod_some x n _ m hm
  obtain ⟨h1', h2', h3'⟩ := PermInv.findMod_some x' n _ m' hm'
  obtain ⟨rfl, rfl⟩ := shapesys_unique s hr n ch ch' hch hch' x x' hx hx' ⟨m, h1, h3, h2⟩ ⟨m', h1', h3', h2'⟩
  exact ⟨rfl, rfl, rfl⟩

/-! ## the bin-wise access fields -/

theorem count_flatMap_single {ι : Type} [DecidableEq ι] (f : ι → List Bool) (c0 : ι) (l : List ι) (hnd : l.Nodup)
    (hmem : c0 ∈ l) (hz : ∀ c ∈ l, c ≠ c0 → (f c).count true = 0) : (l.flatMap f).count true = (f c0).count true := by
  rw [List.count_flatMap, List.sum_map_eq_nsmul_single c0 (count true ∘ f) fun c hc hcl => hz c hcl hc,
    List.count_eq_one_of_mem hnd hmem, one_nsmul, Function.comp]

/-- `(x', m')` need not be `(x, m)`: the builder keeps the first declaring cell of a name (`firstWins`); the statement only says
it is one of them -/
theorem selection_length_of_cell (P : Prim K) (s : Spec K) (cfg : Config) (ps : List (Paramset K))
    (hc : createParamsets P s cfg = .ok ps) (t : ModType) (ht : t ≠ .staterror) (n : String) (x : Sample K)
    (m : Modifier K) (hcell : (n, x, m) ∈ declaringCells s cfg t) :
    ∃ x' m', (n, x', m') ∈ declaringCells s cfg t ∧ (selection (parSlices ps) n).length = (reqOf P t x' m').n := by
  obtain ⟨bl, hb, hps⟩ := paramset_of_builder_entry P s cfg ps hc t
  obtain ⟨hb1, hb2⟩ := builderReqs_cells P s cfg t ht bl hb
  obtain ⟨e, he, hen⟩ := hb2 _ hcell
  obtain ⟨⟨n', x', m'⟩, hcell', rfl⟩ := hb1 e he
  cases hen
  obtain ⟨p, hp, hpn⟩ := hps _ he
  exact ⟨x', m', hcell', by rw [selection_parSlices_length, hp]; exact hpn⟩

/-- shapesys: the size of the created parameter set equals the number of bins the modifier acts on, so the
`ValueError` of `access[mask] = selection` cannot occur -/
theorem reindex_shapesys_entry (P : Prim K) (s : Spec K) (hr : shapesysReuse s = false)
    (hw : walkError s (mkConfig s) = none) (ps : List (Paramset K))
    (hc : createParamsets P s (mkConfig s) = .ok ps)
    (n sm : String) (hmem : (n, ModType.shapesys) ∈ (mkConfig s).modifiers)
    (hsm : singularSample s (mkConfig s) n .shapesys = some sm) :
    (selection (parSlices ps) n).length = (maskTab s (mkConfig s) n .shapesys sm).count true := by
  obtain ⟨hsmc, hany⟩ := List.mem_filter.mp (List.mem_of_getLast? hsm)
  obtain ⟨c0, hc0, x0, hf0, hm0, -⟩ := (Overrides.maskTab_any_iff s _ n _ sm).mp hany
  obtain ⟨m0, hm0'⟩ := Option.isSome_iff_exists.mp hm0
  have hcount : (maskTab s (mkConfig s) n .shapesys sm).count true = x0.data.length := by
    unfold maskTab blocks
    have hnd : (mkConfig s).channels.Nodup := canon_nodup _
    rw [count_flatMap_single _ c0 _ hnd hc0]
    · unfold maskBlk; rw [hf0]; simp only []; rw [hm0']; simp
    · intro c _ hne
      rw [List.count_eq_zero, Overrides.true_mem_maskBlk]
      rintro ⟨x, hf, hm, _⟩
      exact hne (shapesys_cell_unique s hr n c c0 sm sm x x0 hf hf0 hm hm0).1
  obtain ⟨x', m', hcell', hlen⟩ := selection_length_of_cell P s _ ps hc .shapesys (by decide) n x0 m0
    ((mem_declaringCells s _ _ n x0 m0).mpr ⟨c0, hc0, sm, hsmc, hf0, hmem, hm0'⟩)
  obtain ⟨c', hc', sm', hsm', hf', _, hm'⟩ := (mem_declaringCells s _ _ n x' m').mp hcell'
  obtain ⟨_, _, rfl⟩ := shapesys_cell_unique s hr n c' c0 sm' sm x' x0 hf' hf0 (by rw [hm']; rfl) hm0
  obtain rfl : m' = m0 := Option.some.inj (hm'.symm.trans hm0')
  -- the walk has compared the two lengths whose minimum is the size asked for
  have hlo : x'.data.length = m'.lo.length := by
    simpa [modAppendError, hm0'] using ((walkError_eq_none_iff s _).mp hw c0 hc0 sm hsmc x' hf0).2 (n, .shapesys) hmem
  rw [hlen, hcount]
  simp only [reqOf, reqShapesys, List.length_zip, ← hlo, Nat.min_self]

theorem reindex_staterror_entry (P : Prim K) (s : Spec K)
    (hw : walkError s (mkConfig s) = none) (hfin : finalizeLengthsOK s (mkConfig s) .staterror = true)
    (ps : List (Paramset K)) (hc : createParamsets P s (mkConfig s) = .ok ps)
    (n sm : String) (hmem : (n, ModType.staterror) ∈ (mkConfig s).modifiers)
    (hsm : singularSample s (mkConfig s) n .staterror = some sm) :
    (selection (parSlices ps) n).length = (maskTab s (mkConfig s) n .staterror sm).count true := by
  obtain ⟨bl, hb, hps⟩ := paramset_of_builder_entry P s _ ps hc .staterror
  obtain ⟨hb1, hb2⟩ := builderReqs_staterror P s _ bl hb
  obtain ⟨e, he, hen⟩ := hb2 n hmem
  obtain ⟨sig, fx, hss, her⟩ := hb1 e he
  subst hen
  have hnom := nomTab_length s hw
  have hsig := Overrides.staterrorSigmas_length P s _ _ sig fx hss
    (Overrides.relErr_length P s _ _ fun sm' hsm' =>
      ⟨hnom sm' hsm', (uncrtTab_length s _ .staterror (.inr rfl) hfin _ hmem sm' hsm').trans (hnom sm' hsm')⟩)
    (fun sm' hsm' => (maskTab_nomTab_length s _ _ .staterror sm').trans (hnom sm' hsm'))
    sm (List.mem_of_getLast? hsm)
  obtain ⟨p, hp, hpn⟩ := hps e he
  rw [selection_parSlices_length, hp, ← hsig]
  exact hpn.trans (by rw [her]; rfl)

end
end Pyhf
