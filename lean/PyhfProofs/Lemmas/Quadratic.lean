import Mathlib.Algebra.QuadraticDiscriminant
import Mathlib.Analysis.SpecialFunctions.Pow.Real
import Mathlib.Tactic.Linarith
import Mathlib.Tactic.Positivity
/-! The larger root of `a x² + b x + c` for `a > 0 ≥ c` (the discriminant is then non-negative). -/
namespace Pyhf
variable {a b c : ℝ}

theorem quadratic_root (ha : 0 < a) (hc : c ≤ 0) :
    a * ((-b + √(b * b - 4 * a * c)) / (2 * a)) ^ 2 + b * ((-b + √(b * b - 4 * a * c)) / (2 * a)) + c
      = 0 := by
  have hd : 0 ≤ b * b - 4 * a * c := by linarith [mul_self_nonneg b, mul_nonneg ha.le (neg_nonneg.mpr hc)]
  rw [sq]
  exact (quadratic_eq_zero_iff ha.ne' (by rw [discrim, sq, Real.mul_self_sqrt hd]) _).mpr (.inl rfl)

theorem quadratic_root_pos (ha : 0 < a) (hc : c < 0) : 0 < (-b + √(b * b - 4 * a * c)) / (2 * a) := by
  have h : b ^ 2 < b * b - 4 * a * c := by linarith [mul_pos ha (neg_pos.mpr hc)]
  have := Real.lt_sqrt_of_sq_lt h
  exact div_pos (by linarith) (by positivity)

end Pyhf
