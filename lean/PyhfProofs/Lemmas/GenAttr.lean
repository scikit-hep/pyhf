import Lean.Meta.Tactic.Simp.RegisterCommand
/-! The simp set `gen_norm`: what brings a leaf of a generated decision tree (`PyhfGen/*.lean`) into the form the proofs about it
compare — literals as numerals, the residue of `einsum` (`0 + 1 * x * 1`, `x / 1`) removed, powers with literal exponents as natural
powers, the coefficient tables recognised.  Declared here because an attribute cannot be used in the module that declares it;
the lemmas are tagged in `GenNorm.lean`. -/
register_simp_attr gen_norm
