import PyhfProofs.Lemmas.EngineAD
import Mathlib.Data.List.Perm.Basic
/-! Lemmas for C02: the term list produced by the code path (split by viewers, grouped by constraint
type) is a permutation of the HistFactory template (one term per bin, one per constrained component). -/
namespace Pyhf

/-! ## `_tensorviewer_from_sizes` splits a vector into consecutive pieces -/

theorem map_getD_range_shift {α : Type} (v : List α) (d : α) (a b : Nat) (h : a + b ≤ v.length) :
    ((List.range b).map (· + a)).map (fun i => v.getD i d) = (v.drop a).take b := by
  have hl : ((v.drop a).take b).length = b := by rw [List.length_take, List.length_drop]; omega
  refine List.ext_getElem (by rw [hl, List.length_map, List.length_map, List.length_range]) fun i _ h2 => ?_
  rw [List.getElem_map, List.getElem_map, List.getElem_range, List.getElem_take, List.getElem_drop,
    List.getD_eq_getElem _ _ (by omega)]
  simp only [Nat.add_comm]

/-- two parts: main and aux -/
theorem split_two {α : Type} (d : α) (a b : Nat) (v : List α) (h : v.length = a + b) :
    (TV.ofSizes [a, b]).split d v = [v.take a, v.drop a] := by
  have h1 := map_getD_range_shift v d 0 a (by omega)
  have h2 := map_getD_range_shift v d a b (by omega)
  rw [List.take_of_length_le (by simp; omega)] at h2
  simp only [TV.split, TV.ofSizes, TV.ofSizes.go, List.map_cons, List.map_nil, Nat.zero_add, h1, h2, List.drop_zero]

theorem split_one {α : Type} (d : α) (a : Nat) (v : List α) (h : v.length = a) :
    (TV.ofSizes [a]).split d v = [v] := by
  have h1 := map_getD_range_shift v d 0 a (by omega)
  rw [List.drop_zero, List.take_of_length_le (by omega)] at h1
  simp only [TV.split, TV.ofSizes, TV.ofSizes.go, List.map_cons, List.map_nil, h1]

/-! ## constraint terms -/

/-- the quadruple the log-density primitive is applied to -/
def quad (aux : List ℝ) (t : CTerm ℝ) : CKind × ℝ × ℝ × ℝ := (t.kind, aux.getD t.auxIdx 0, t.loc, t.scale)

theorem ct_go_shape (m : Model ℝ) (par par' : Nat → ℝ) (ps : List (Paramset ℝ)) (start : Nat) :
    (constraintTerms.go m par ps start).map (fun t => (t.kind, t.auxIdx))
      = (constraintTerms.go m par' ps start).map (fun t => (t.kind, t.auxIdx)) := by
  induction ps generalizing start with
  | nil => rfl
  | cons p ps ih =>
    simp only [constraintTerms.go, List.map_append, ih]
    cases p.ptype <;> simp only [List.map_map] <;> rfl

theorem filter_kind_auxIdx (m : Model ℝ) (par par' : Nat → ℝ) (k : CKind) :
    ((constraintTerms m par).filter (·.kind == k)).map (·.auxIdx)
      = ((constraintTerms m par').filter (·.kind == k)).map (·.auxIdx) := by
  have key : ∀ (l : List (CTerm ℝ)), (l.filter (·.kind == k)).map (·.auxIdx)
      = ((l.map fun t => (t.kind, t.auxIdx)).filter (·.1 == k)).map (·.2) := by
    intro l
    rw [List.filter_map, List.map_map]; rfl
  unfold constraintTerms
  rw [key, key, ct_go_shape m par par']

/-- with slices of the paramsets' own sizes, the gathered parameter of component `i` is `byName` -/
theorem ct_go_eq_template (m : Model ℝ) (par : Nat → ℝ) (aux : List ℝ) (ps : List (Paramset ℝ)) (start : Nat)
    (hps : ∀ p ∈ ps, (sliceOf m.slices p.name).2 - (sliceOf m.slices p.name).1 = p.n) :
    (constraintTerms.go m par ps start).map (quad aux) = D.constraintTemplate.go m par aux ps start := by
  induction ps generalizing start with
  | nil => rfl
  | cons p ps ih =>
    rw [List.forall_mem_cons] at hps
    simp only [constraintTerms.go, D.constraintTemplate.go, List.map_append]
    rw [ih (start + p.n) hps.2]
    congr 1
    unfold D.paramsetTerms
    cases p.ptype with
    | unconstrained => rfl
    | _ =>
      simp only [List.map_map]
      refine List.map_congr_left fun i hi => ?_
      simp only [Function.comp, quad, byName, selection_getD _ _ _ (hps.1 ▸ List.mem_range.mp hi)]

theorem filter_kind_perm (ts : List (CTerm ℝ)) :
    (ts.filter (·.kind == .normal) ++ ts.filter (·.kind == .poisson)).Perm ts := by
  have : ts.filter (·.kind == .poisson) = ts.filter (fun t => !(t.kind == CKind.normal)) :=
    List.filter_congr fun t _ => by cases t.kind <;> rfl
  rw [this]
  exact List.filter_append_perm _ ts

theorem ct_go_positions (m : Model ℝ) (par : Nat → ℝ) (ps : List (Paramset ℝ)) (start : Nat)
    (hc : ∀ p ∈ ps, p.constrained = true) :
    (constraintTerms.go m par ps start).map (·.auxIdx) = List.range' start ((ps.map (·.n)).sum) := by
  induction ps generalizing start with
  | nil => rfl
  | cons p ps ih =>
    rw [List.forall_mem_cons] at hc
    simp only [constraintTerms.go, List.map_append, List.map_cons, List.sum_cons]
    rw [ih (start + p.n) hc.2, ← List.range'_append_1]
    congr 1
    have := hc.1
    unfold Paramset.constrained at this
    cases hpt : p.ptype with
    | unconstrained => rw [hpt] at this; exact absurd this (by decide)
    | _ =>
      apply List.ext_getElem <;> simp

theorem ct_go_length (m : Model ℝ) (par : Nat → ℝ) (ps : List (Paramset ℝ)) (start : Nat)
    (hc : ∀ p ∈ ps, p.constrained = true) :
    (constraintTerms.go m par ps start).length = (ps.map (·.n)).sum := by
  simpa using congrArg List.length (ct_go_positions m par ps start hc)

theorem paramsetsOK_iff (m : Model ℝ) : paramsetsOK m = true ↔ ∀ p ∈ m.ps,
    (sliceOf m.slices p.name).2 - (sliceOf m.slices p.name).1 = p.n ∧
    (p.constrained = true → (p.auxdata.getD []).length = p.n) := by
  simp only [paramsetsOK, List.all_eq_true, Bool.and_eq_true, Bool.or_eq_true, Bool.not_eq_true', beq_iff_eq,
    imp_iff_not_or, Bool.not_eq_true]

theorem naux_eq_terms (m : Model ℝ) (hp : paramsetsOK m = true) (par : Nat → ℝ) :
    (auxData m.ps).length = (constraintTerms m par).length := by
  unfold constraintTerms auxData
  rw [ct_go_length m par _ 0 (fun p hp' => (List.mem_filter.mp hp').2), List.length_flatMap]
  congr 1
  exact List.map_congr_left fun p hp' => ((paramsetsOK_iff m).mp hp p (List.mem_filter.mp hp').1).2 (List.mem_filter.mp hp').2

theorem pair_group (ts : List (CTerm ℝ)) (auxD : List ℝ) (k : CKind) :
    ((((ts.filter (·.kind == k)).map (·.auxIdx)).map (fun i => auxD.getD i 0)).zip (ts.filter (·.kind == k))).map
        (fun (x : ℝ × CTerm ℝ) => (k, x.1, x.2.loc, x.2.scale)) = (ts.filter (·.kind == k)).map (quad auxD) := by
  rw [List.map_map, ← List.map_prod_right_eq_zip, List.map_map]
  apply List.map_congr_left
  intro t ht
  simp [quad, show t.kind = k by simpa using (List.mem_filter.mp ht).2]

/-- the constraint viewer (the model builds it at the zero point) read off the terms at any parameter point: kinds
and positions do not depend on the point (`filter_kind_auxIdx`) -/
theorem constraintsTV_eq (m : Model ℝ) (par : Nat → ℝ) :
    constraintsTV m =
      ⟨(if (normalData m par).isEmpty then [] else [normalData m par]) ++
        (if (poissonData m par).isEmpty then [] else [poissonData m par])⟩ := by
  unfold constraintsTV normalData poissonData
  simp only [filter_kind_auxIdx m (fun _ => 0) par]

/-- the viewer over the non-empty ones of two index groups hands each group its own entries, whatever the
emptiness pattern (an empty group gets `[]` either way) -/
theorem split_groups {α : Type} (d : α) (a b : List Nat) (v : List α) :
    (if a.isEmpty then []
      else ((TV.mk ((if a.isEmpty then [] else [a]) ++ (if b.isEmpty then [] else [b]))).split d v).getD 0 [])
      = a.map (fun i => v.getD i d) ∧
    (if b.isEmpty then []
      else ((TV.mk ((if a.isEmpty then [] else [a]) ++ (if b.isEmpty then [] else [b]))).split d v).getD
        (if a.isEmpty then 0 else 1) [])
      = b.map (fun i => v.getD i d) := by
  cases a <;> cases b <;> exact ⟨rfl, rfl⟩

/-- **The code path's term list is a permutation of the template.** -/
theorem logpdfTerms_perm_template (m : Model ℝ) (hs : Shape m) (he : Extra m) (hp : paramsetsOK m = true)
    (par : Nat → ℝ) (data : List ℝ) (hlen : data.length = m.cfg.nmain + (auxData m.ps).length) :
    (logpdfTerms realPrim m par data).Perm (D.template realPrim m par data) := by
  have hnaux := naux_eq_terms m hp par
  have htemplate : D.constraintTemplate m par (data.drop m.cfg.nmain)
      = (constraintTerms m par).map (quad (data.drop m.cfg.nmain)) := by
    unfold D.constraintTemplate constraintTerms
    rw [ct_go_eq_template]
    exact fun p hp' => ((paramsetsOK_iff m).mp hp p (List.mem_filter.mp hp').1).1
  obtain ⟨h1, h2⟩ := split_groups (0 : ℝ)
    (((constraintTerms m par).filter (·.kind == .normal)).map (·.auxIdx))
    (((constraintTerms m par).filter (·.kind == .poisson)).map (·.auxIdx)) (data.drop m.cfg.nmain)
  unfold logpdfTerms D.template
  simp only []
  rw [expectedActual_eq_D m hs he par, htemplate, constraintsTV_eq m par]
  simp only [normalData, poissonData, List.isEmpty_map] at h1 h2 ⊢
  cases hempty : (constraintTerms m par).isEmpty with
  | true =>
    have hts0 : constraintTerms m par = [] := by simpa using hempty
    have hl : data.length = m.cfg.nmain := by rw [hlen, hnaux, hts0]; rfl
    simp [hts0, split_one 0 _ _ hl, List.take_of_length_le (Nat.le_of_eq hl)]
  | false =>
    simp only [Bool.false_eq_true, if_false, List.singleton_append]
    rw [split_two 0 _ _ _ hlen]
    simp only [List.getD_cons_zero, List.getD_cons_succ]
    rw [List.append_assoc]
    apply List.Perm.append_left
    rw [h1, h2, pair_group, pair_group, ← List.map_append]
    exact (filter_kind_perm _).map _

theorem flatten_opt2 {α : Type} (a b : List α) :
    ((if a.isEmpty then [] else [a]) ++ (if b.isEmpty then [] else [b]) : List (List α)).flatten = a ++ b := by
  cases a <;> cases b <;> simp

end Pyhf
