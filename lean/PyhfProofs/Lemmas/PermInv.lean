import PyhfProofs.Lemmas.Lookup
import Mathlib.Data.List.Perm.Basic
/-!
# Reordering invariance (files `PermInv`, `PermCongr`, `PermEval`, `PermInvExample`)

Inference does not change when channels, the samples of a channel, the modifiers of a sample and the measurement's
parameter configurations are listed in a different order (`SpecPerm s s'`, below).

For an *accepted* specification no function on the construction or evaluation path depends on the raw listing order.
The raw-order reads are `mkConfig`'s bin count (the data length of the *first listed* sample of a channel), the
"last definition wins" lookups `findSample` / `findMod` / `lastSome`, `s.parameters.find?`, the running `seen` list of
`shapesysReuse` and the duplicate scans; each is order-independent once the duplicate checks and the sample-length check
of `buildModel` have passed.  The route: a reordering of a duplicate-free specification finds in every cell the same
sample up to the order of its modifiers (`LookupEq`, `lookupEq_of_perm`); every table, check and parameter-set function
reads the specification only through these lookups (`PermCongr`), and so does evaluation (`PermEval`, which has the main
theorem `buildModel_perm`).  The exception class of a *refused* specification can follow the listing order
(`PermInvExample`, `badA` / `badB`).
-/
set_option linter.unusedSectionVars false
namespace Pyhf.PermInv
open List

theorem bool_eq_of_false_iff : ∀ {a b : Bool}, (a = false ↔ b = false) → a = b := by decide

def ORel {α β : Type} (R : α → β → Prop) : Option α → Option β → Prop
  | some a, some b => R a b
  | none, none => True
  | _, _ => False

theorem ORel.cases {α β : Type} {R : α → β → Prop} {o : Option α} {o' : Option β} (h : ORel R o o') :
    (o = none ∧ o' = none) ∨ ∃ a b, o = some a ∧ o' = some b ∧ R a b :=
  match o, o', h with
  | none, none, _ => .inl ⟨rfl, rfl⟩
  | some a, some b, h => .inr ⟨a, b, rfl, rfl, h⟩

def PermRel {α β : Type} (R : α → β → Prop) (l : List α) (l' : List β) : Prop :=
  ∃ l₁, l.Perm l₁ ∧ List.Forall₂ R l₁ l'

theorem forall₂_mem_left {α β : Type} {R : α → β → Prop} {l : List α} {l' : List β} (h : Forall₂ R l l') :
    ∀ a ∈ l, ∃ b ∈ l', R a b := by
  induction h with
  | nil => intro a ha; cases ha
  | cons hab _ ih =>
    intro a ha
    rcases List.mem_cons.mp ha with rfl | ha
    · exact ⟨_, by simp, hab⟩
    · obtain ⟨b, hb, hr⟩ := ih a ha
      exact ⟨b, by simp [hb], hr⟩

theorem forall₂_mem_right {α β : Type} {R : α → β → Prop} {l : List α} {l' : List β} (h : Forall₂ R l l') :
    ∀ b ∈ l', ∃ a ∈ l, R a b :=
  forall₂_mem_left (R := flip R) (Forall₂.flip (R := flip R) h)

theorem PermRel.mem_left {α β : Type} {R : α → β → Prop} {l : List α} {l' : List β} (h : PermRel R l l') :
    ∀ a ∈ l, ∃ b ∈ l', R a b := by
  obtain ⟨l₁, hp, hf⟩ := h
  intro a ha
  exact forall₂_mem_left hf a (hp.mem_iff.mp ha)

theorem PermRel.mem_right {α β : Type} {R : α → β → Prop} {l : List α} {l' : List β} (h : PermRel R l l') :
    ∀ b ∈ l', ∃ a ∈ l, R a b := by
  obtain ⟨l₁, hp, hf⟩ := h
  intro b hb
  obtain ⟨a, ha, hr⟩ := forall₂_mem_right hf b hb
  exact ⟨a, hp.mem_iff.mpr ha, hr⟩

theorem PermRel.map_perm {α β γ : Type} {R : α → β → Prop} {l : List α} {l' : List β} (f : α → γ) (g : β → γ)
    (hR : ∀ a b, R a b → f a = g b) (h : PermRel R l l') : (l.map f).Perm (l'.map g) := by
  obtain ⟨l₁, hp, hf⟩ := h
  have e : l₁.map f = l'.map g := by
    rw [← forall₂_eq_eq_eq, forall₂_map_left_iff, forall₂_map_right_iff]; exact hf.imp hR
  exact e ▸ hp.map f

theorem forall₂_flatMap_perm {α β γ : Type} {R : α → β → Prop} {l : List α} {l' : List β}
    (f : α → List γ) (g : β → List γ) (hR : ∀ a b, R a b → (f a).Perm (g b)) (h : Forall₂ R l l') :
    (l.flatMap f).Perm (l'.flatMap g) := by
  induction h with
  | nil => simp
  | cons hab _ ih => simp only [List.flatMap_cons]; exact (hR _ _ hab).append ih

theorem PermRel.flatMap_perm {α β γ : Type} {R : α → β → Prop} {l : List α} {l' : List β}
    (f : α → List γ) (g : β → List γ) (hR : ∀ a b, R a b → (f a).Perm (g b)) (h : PermRel R l l') :
    (l.flatMap f).Perm (l'.flatMap g) := by
  obtain ⟨l₁, hp, hf⟩ := h
  exact (hp.flatMap_right f).trans (forall₂_flatMap_perm f g hR hf)

theorem PermRel.of_perm {α : Type} {l l' : List α} (h : l.Perm l') : PermRel Eq l l' :=
  ⟨l', h, List.forall₂_refl l'⟩

theorem PermRel.symm {α β : Type} {R : α → β → Prop} {S : β → α → Prop} {l : List α} {l' : List β}
    (hRS : ∀ a b, R a b → S b a) (h : PermRel R l l') : PermRel S l' l := by
  obtain ⟨l₁, hp, hf⟩ := h
  have : Relation.Comp (Forall₂ S) Perm l' l := ⟨l₁, (hf.imp hRS).flip, hp.symm⟩
  rw [List.forall₂_comp_perm_eq_perm_comp_forall₂] at this
  exact this

theorem PermRel.refl {α : Type} {R : α → α → Prop} (hR : ∀ a, R a a) (l : List α) : PermRel R l l :=
  ⟨l, List.Perm.refl l, List.forall₂_same.mpr fun a _ => hR a⟩

theorem lastSome_permRel {α β : Type} {R : α → β → Prop} {l : List α} {l' : List β} (p : α → Bool) (q : β → Bool)
    (hpq : ∀ a b, R a b → p a = q b) (h : PermRel R l l')
    (hu' : ∀ a ∈ l', ∀ b ∈ l', q a = true → q b = true → a = b) :
    ORel R (lastSome p l) (lastSome q l') := by
  cases h1 : lastSome p l with
  | some a =>
    obtain ⟨ha, hpa⟩ := lastSome_some p l a h1
    obtain ⟨b, hb, hr⟩ := h.mem_left a ha
    rw [lastSome_of_unique q l' hu' b hb (by rw [← hpq a b hr]; exact hpa)]
    exact hr
  | none =>
    have : lastSome q l' = none := by
      rw [lastSome_none] at h1 ⊢
      intro b hb
      obtain ⟨a, ha, hr⟩ := h.mem_right b hb
      rw [← hpq a b hr]; exact h1 a ha
    rw [this]; trivial

/-! ## the permutation relation on specifications -/
section
variable {K : Type}

def SamplePerm (a b : Sample K) : Prop := a.name = b.name ∧ a.data = b.data ∧ a.mods.Perm b.mods

def ChannelPerm (a b : Channel K) : Prop := a.name = b.name ∧ PermRel SamplePerm a.samples b.samples

theorem SamplePerm.symm {a b : Sample K} (h : SamplePerm a b) : SamplePerm b a := ⟨h.1.symm, h.2.1.symm, h.2.2.symm⟩
theorem SamplePerm.refl (a : Sample K) : SamplePerm a a := ⟨rfl, rfl, List.Perm.refl _⟩
theorem ChannelPerm.symm {a b : Channel K} (h : ChannelPerm a b) : ChannelPerm b a :=
  ⟨h.1.symm, h.2.symm (fun _ _ r => r.symm)⟩
theorem ChannelPerm.refl (a : Channel K) : ChannelPerm a a := ⟨rfl, PermRel.refl SamplePerm.refl _⟩
end
end Pyhf.PermInv

namespace Pyhf
open Pyhf.PermInv
/-- `s'` is obtained from `s` by permuting the channel list, the sample list of each channel, the modifier list
of each sample and the `parameters` list; all elements are otherwise identical. (`PermRel R l l'` :
`∃ l₁, l.Perm l₁ ∧ Forall₂ R l₁ l'`.) -/
inductive SpecPerm {K : Type} : Spec K → Spec K → Prop
  | mk {s s' : Spec K} (hc : PermRel ChannelPerm s.channels s'.channels)
      (hp : s.parameters.Perm s'.parameters) : SpecPerm s s'

theorem SpecPerm.chan {K : Type} {s s' : Spec K} (h : SpecPerm s s') : PermRel ChannelPerm s.channels s'.channels := by
  cases h; assumption

theorem SpecPerm.pars {K : Type} {s s' : Spec K} (h : SpecPerm s s') : s.parameters.Perm s'.parameters := by
  cases h; assumption

theorem SpecPerm.symm {K : Type} {s s' : Spec K} (h : SpecPerm s s') : SpecPerm s' s :=
  ⟨h.chan.symm (fun _ _ r => r.symm), h.pars.symm⟩
theorem SpecPerm.refl {K : Type} (s : Spec K) : SpecPerm s s := ⟨PermRel.refl ChannelPerm.refl _, List.Perm.refl _⟩
end Pyhf

namespace Pyhf.PermInv
section
variable {K : Type}

/-! ## duplicate-freeness and lookups under reordering -/

theorem SpecND.perm {s s' : Spec K} (h : SpecPerm s s') (hn : SpecND s) : SpecND s' := by
  have hc := h.chan
  refine ⟨?_, ?_, ?_⟩
  · exact (hc.map_perm (·.name) (·.name) (fun a b r => r.1)).nodup_iff.mp hn.chans
  · intro ch' hch'
    obtain ⟨ch, hch, hr⟩ := hc.mem_right ch' hch'
    exact (hr.2.map_perm (·.name) (·.name) (fun a b r => r.1)).nodup_iff.mp (hn.samps ch hch)
  · intro ch' hch' x' hx'
    obtain ⟨ch, hch, hr⟩ := hc.mem_right ch' hch'
    obtain ⟨x, hx, hxr⟩ := hr.2.mem_right x' hx'
    exact (hxr.2.2.map modKey).nodup_iff.mp (hn.mods ch hch x hx)

theorem findMod_perm {x x' : Sample K} (h : SamplePerm x x') (hn : (x.mods.map modKey).Nodup) (n : String) (t : ModType) :
    findMod x n t = findMod x' n t := by
  unfold findMod lastSome
  rw [filter_unique_perm _ _ _ h.2.2 ?_ (List.Nodup.of_map _ hn)]
  intro a ha b hb pa pb
  simp only [Bool.and_eq_true, beq_iff_eq] at pa pb
  apply List.inj_on_of_nodup_map hn ha hb
  unfold modKey
  rw [pa.1, pa.2, pb.1, pb.2]

/-- what the model functions read of a sample: its data and its modifier lookups -/
def SampEq (x x' : Sample K) : Prop := x.data = x'.data ∧ ∀ n t, findMod x n t = findMod x' n t

def LookupEq (s s' : Spec K) : Prop := ∀ c sm, ORel SampEq (findSample s c sm) (findSample s' c sm)

theorem LookupEq.cases {s s' : Spec K} (h : LookupEq s s') (c sm : String) :
    (findSample s c sm = none ∧ findSample s' c sm = none) ∨
    ∃ x x', findSample s c sm = some x ∧ findSample s' c sm = some x' ∧ x.data = x'.data ∧
      ∀ n t, findMod x n t = findMod x' n t := (h c sm).cases

theorem lookupEq_of_perm {s s' : Spec K} (h : SpecPerm s s') (hn : SpecND s) : LookupEq s s' := by
  intro c sm
  have hn' := SpecND.perm h hn
  cases hf : findSample s c sm with
  | some x =>
    obtain ⟨ch, hch, rfl, hx, rfl⟩ := findSample_some s _ _ x hf
    obtain ⟨ch', hch', hr⟩ := h.chan.mem_left ch hch
    obtain ⟨x', hx', hxr⟩ := hr.2.mem_left x hx
    rw [hr.1, hxr.1, findSample_of_nd s' hn' ch' hch' x' hx']
    exact ⟨hxr.2.1, findMod_perm hxr (hn.mods ch hch x hx)⟩
  | none =>
    rw [findSample_none_of s' c sm]
    · trivial
    · intro ch' hch' hc x' hx' hsm
      obtain ⟨ch, hch, hr⟩ := h.chan.mem_right ch' hch'
      obtain ⟨x, hx, hxr⟩ := hr.2.mem_right x' hx'
      have := findSample_of_nd s hn ch hch x hx
      rw [hr.1, hxr.1, hc, hsm, hf] at this
      cases this

/-! ## the channel summary -/

theorem chanLen_perm {ch ch' : Channel K} (h : ChannelPerm ch ch')
    (hlen : ∀ x ∈ ch.samples, ∀ y ∈ ch.samples, x.data.length = y.data.length) : chanLen ch = chanLen ch' := by
  unfold chanLen
  obtain ⟨_, hp, hf⟩ := h.2
  have hl := hp.length_eq.trans hf.length_eq
  -- both sample lists are empty, or both have a head and all data in sight have one length
  match h1 : ch.samples, h2 : ch'.samples, hl with
  | [], [], _ => rfl
  | x :: _, y' :: _, _ =>
    obtain ⟨y, hy, hyr⟩ := h.2.mem_right y' (h2 ▸ List.mem_cons_self)
    exact (hlen x (h1 ▸ List.mem_cons_self) y hy).trans (congrArg List.length hyr.2.1)

theorem mkConfig_perm {s s' : Spec K} (h : SpecPerm s s') (hn : SpecND s)
    (hlen : ∀ ch ∈ s.channels, ∀ x ∈ ch.samples, ∀ y ∈ ch.samples, x.data.length = y.data.length) :
    mkConfig s = mkConfig s' := by
  have hn' := SpecND.perm h hn
  have hc := h.chan
  refine mkConfig_ext (canon_perm _ _ (hc.map_perm (·.name) (·.name) (fun a b r => r.1)))
    (canon_perm _ _ (hc.flatMap_perm _ _ (fun a b r => r.2.map_perm (·.name) (·.name) (fun x y r' => r'.1))))
    (congrArg (List.filterMap _) (canonPairs_eq_of_mem_iff _ _ (fun a => (hc.flatMap_perm _ _ (fun a b r =>
      r.2.flatMap_perm _ _ (fun x y r' => r'.2.2.map _))).mem_iff))) ?_
  intro c
  rw [mkConfig_nbOf, mkConfig_nbOf]
  rcases (lastSome_permRel (R := ChannelPerm) (·.name == c) (·.name == c) (fun a b r => by simp only [r.1]) hc
      (uniq_of_nodup_map Channel.name _ hn'.chans c)).cases
    with ⟨h1, h2⟩ | ⟨ch, ch', h1, h2, r⟩
  · rw [h1, h2]
  · rw [h1, h2]
    exact chanLen_perm r (hlen ch (lastSome_some _ _ _ h1).1)

end

/-! ## the shapesys re-use check -/
section
variable {K : Type} [Add K] [Sub K] [Mul K] [Div K] [Neg K] [OfNat K 0] [OfNat K 1]
  [OfScientific K] [LT K] [LE K] [DecidableLT K] [DecidableLE K] [BEq K]

theorem flat_fst : ∀ (L : List (Modifier K)) (st : List String × Bool),
    (L.foldl flatStep st).1 = st.1 ++ L.map modKey := by
  intro L
  induction L with
  | nil => intro st; simp
  | cons m L ih => intro st; simp [List.foldl_cons, ih, flatStep]

theorem allMods_perm {s s' : Spec K} (h : SpecPerm s s') : (allMods s).Perm (allMods s') := by
  unfold allMods
  rw [List.flatMap_assoc, List.flatMap_assoc]
  exact h.chan.flatMap_perm _ _ (fun a b r => r.2.flatMap_perm _ _ (fun x y r' => r'.2.2))

theorem shapesysReuse_perm {s s' : Spec K} (h : SpecPerm s s') : shapesysReuse s = shapesysReuse s' :=
  bool_eq_of_false_iff (by
    rw [shapesysReuse_false_iff, shapesysReuse_false_iff]
    exact (allMods_perm h).pairwise_iff NoClash.symm)

end

end Pyhf.PermInv
