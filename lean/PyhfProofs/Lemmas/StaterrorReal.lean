import PyhfProofs.Lemmas.Staterror
import PyhfProofs.Lemmas.RealPrim
import PyhfProofs.Lemmas.PW
import Mathlib.Algebra.BigOperators.Group.List.Basic
/-!
# The staterror widths in closed form over `ℝ` (C02)

With `realPrim`, `relErr_real` identifies `relErr` with `relWidth` bin by bin, which gives `staterror_widths_closed_form`.
The named statements of property C02 are in `Properties/C02_Staterror.lean`.
-/
namespace Pyhf
namespace Overrides

private theorem foldl_vecAdd_map_range {ι : Type} (g : ι → List ℝ) (φ : ι → Nat → ℝ) (N : Nat) (l : List ι)
    (hg : ∀ a ∈ l, g a = (List.range N).map (φ a)) :
    l.foldl (fun acc a => vecAdd acc (g a)) (List.replicate N 0) =
      (List.range N).map fun b => (l.map fun a => φ a b).sum := by
  induction l using List.reverseRecOn with
  | nil => simp
  | append_singleton l a ih =>
    rw [List.foldl_append, ih fun a' ha' => hg a' (by simp [ha']), List.foldl_cons, List.foldl_nil, hg a (by simp)]
    simp [vecAdd, List.zipWith_map, List.zipWith_self]

/-- per-bin total of the nominal rates of the declaring samples, `nomsall_b = Σ_{declaring s} nom_sb` -/
noncomputable def nomsAll (s : Spec ℝ) (cfg : Config) (n : String) (b : Nat) : ℝ :=
  ((declaring s cfg n).map fun sm => (nomTab s cfg sm).getD b 0).sum

/-- relative width of bin `b` of the mega-channel:
`sqrt (Σ_s (unc_sb / nomsall_b)²)` when `nomsall_b > 0`, and `0` otherwise -/
noncomputable def relWidth (s : Spec ℝ) (cfg : Config) (n : String) (b : Nat) : ℝ :=
  if 0 < nomsAll s cfg n b then
    Real.sqrt ((cfg.samples.map fun sm =>
      ((uncrtTab s cfg n .staterror sm).getD b 0 / nomsAll s cfg n b) ^ 2).sum)
  else 0

/-- for rectangular tables (every nominal/uncertainty table has `nmain` entries — true after a clean walk), `relerr` is
`relWidth` bin by bin.  Note: the squares are summed over *all* samples (non-declaring ones carry zero uncertainty, see
`uncrt_zero_of_not_declaring`), `nomsall` only over declaring ones. -/
theorem relErr_real (s : Spec ℝ) (cfg : Config) (n : String)
    (hnom : ∀ sm ∈ cfg.samples, (nomTab s cfg sm).length = cfg.nmain)
    (hunc : ∀ sm ∈ cfg.samples, (uncrtTab s cfg n .staterror sm).length = cfg.nmain) :
    relErr realPrim s cfg n = (List.range cfg.nmain).map (relWidth s cfg n) := by
  have hN : (declaring s cfg n).foldl (fun acc sm => vecAdd acc (nomTab s cfg sm)) (List.replicate cfg.nmain 0) =
      (List.range cfg.nmain).map (nomsAll s cfg n) :=
    foldl_vecAdd_map_range _ _ _ _ fun sm hsm => hnom sm (List.mem_filter.mp hsm).1 ▸ list_eq_map_range _ 0
  unfold relErr
  simp only [hN]
  rw [foldl_vecAdd_map_range _ _ _ _ fun sm hsm => zipWith_map_range _ _ 0 _ (hunc sm hsm) _, List.map_map]
  refine List.map_congr_left fun b _ => ?_
  simp only [Function.comp, realPrim_sqrt, relWidth]
  split_ifs
  · simp only [pow_two]
  · simp

/-- **Closed form of the staterror widths (property C02).**  For rectangular tables the widths are `relWidth` at the
masked bins of the mega-channel (the mask of any declaring sample: they all agree), in bin order; bins whose width is
`0` get width `1` and are flagged fixed. -/
theorem staterror_widths_closed_form (s : Spec ℝ) (cfg : Config) (n : String) (sig : List ℝ) (fx : List Bool)
    (h : staterrorSigmas realPrim s cfg n = .ok (sig, fx))
    (hnom : ∀ sm ∈ cfg.samples, (nomTab s cfg sm).length = cfg.nmain)
    (hunc : ∀ sm ∈ cfg.samples, (uncrtTab s cfg n .staterror sm).length = cfg.nmain)
    (sm : String) (hsm : sm ∈ declaring s cfg n) :
    sig = maskSelect (maskTab s cfg n .staterror sm)
      ((List.range cfg.nmain).map fun b => if relWidth s cfg n b = 0 then 1 else relWidth s cfg n b) ∧
    fx = maskSelect (maskTab s cfg n .staterror sm)
      ((List.range cfg.nmain).map fun b => decide (relWidth s cfg n b = 0)) := by
  obtain ⟨rfl, rfl⟩ := staterrorSigmas_ok h hsm
  rw [relErr_real s cfg n hnom hunc, ← maskSelect_map, ← maskSelect_map, List.map_map, List.map_map]
  refine ⟨?_, rfl⟩
  congr 2; funext b; simp only [Function.comp, beq_iff_eq]

theorem relWidth_single_sample (s : Spec ℝ) (cfg : Config) (n : String) (sm0 : String) (b : Nat)
    (hdecl : declaring s cfg n = [sm0])
    (hothers : ∀ sm ∈ cfg.samples, (maskTab s cfg n .staterror sm).any id = false →
      (uncrtTab s cfg n .staterror sm).getD b 0 = 0)
    (hpos : 0 < (nomTab s cfg sm0).getD b 0) (hu : 0 ≤ (uncrtTab s cfg n .staterror sm0).getD b 0) :
    relWidth s cfg n b = (uncrtTab s cfg n .staterror sm0).getD b 0 / (nomTab s cfg sm0).getD b 0 := by
  have hN : nomsAll s cfg n b = (nomTab s cfg sm0).getD b 0 := by simp [nomsAll, hdecl]
  unfold relWidth
  rw [hN, if_pos hpos]
  rw [sum_map_filter_of_zero (fun sm => (maskTab s cfg n .staterror sm).any id) _ cfg.samples
    (fun sm hsm hnd => by simp only [hothers sm hsm hnd, zero_div]; norm_num)]
  have : cfg.samples.filter (fun sm => (maskTab s cfg n .staterror sm).any id) = [sm0] := hdecl
  rw [this]
  simp only [List.map_cons, List.map_nil, List.sum_cons, List.sum_nil, add_zero]
  rw [Real.sqrt_sq (div_nonneg hu hpos.le)]

theorem uncrt_zero_of_not_declaring (s : Spec ℝ) (cfg : Config) (n : String) (sm : String)
    (hnd : (maskTab s cfg n .staterror sm).any id = false)
    (hcells : ∀ c ∈ cfg.channels, ∀ x m, findSample s c sm = some x → findMod x n .staterror = some m →
      m.lo.length = x.data.length) (b : Nat) :
    (uncrtTab s cfg n .staterror sm).getD b 0 = 0 := by
  suffices hall : ∀ y ∈ uncrtTab s cfg n .staterror sm, y = 0 by
    rw [List.getD_eq_getElem?_getD]
    cases hg : (uncrtTab s cfg n .staterror sm)[b]? with
    | none => rfl
    | some y => exact hall y (List.mem_of_getElem? hg)
  intro y hy
  obtain ⟨c, hc, hy⟩ := List.mem_flatMap.mp hy
  unfold uncrtBlk at hy
  cases hf : findSample s c sm with
  | none => rw [hf] at hy; exact (List.mem_replicate.mp hy).2
  | some x =>
    rw [hf] at hy
    dsimp only at hy
    cases hm : findMod x n .staterror with
    | none => rw [hm] at hy; exact (List.mem_replicate.mp hy).2
    | some m =>
      -- a declaration in a channel where the sample had a bin would put a `true` into the mask: `m.lo` is empty
      have hx : x.data = [] := by
        by_contra hne
        exact Bool.false_ne_true (hnd.symm.trans ((maskTab_any_iff ..).mpr ⟨c, hc, x, hf, by rw [hm]; rfl, hne⟩))
      rw [hm] at hy
      have hy : y ∈ m.lo := hy
      rw [List.eq_nil_of_length_eq_zero ((hcells c hc x m hf hm).trans (congrArg List.length hx))] at hy
      cases hy

end Overrides
end Pyhf
