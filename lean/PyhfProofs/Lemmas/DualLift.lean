import PyhfModel.Dual
import Mathlib.Analysis.Calculus.Deriv.Basic
import Mathlib.Topology.Order.OrderClosed
/-! What it means for a dual-number function to carry the true derivative, and the lemmas through
which the lifting theorems of C13 use it: a lift *is* `F x = ⟨f x, f' x⟩` (`IsLift.exists_eq`, `IsLift.of_eq`), so a primitive is
lifted by computing on pairs (`rfl`) and quoting Mathlib's derivative rule; a selection is lifted where its test is locally
constant (`IsLift.ite`), which a comparison of continuous quantities is away from equality (`eventually_cmp_iff`). -/
namespace Pyhf.Props.C13
open Topology

/-- `F` is a dual lift of `f` at `x`: value and derivative agree -/
def IsLift (F : ℝ → Dual ℝ) (f : ℝ → ℝ) (x : ℝ) : Prop := (F x).v = f x ∧ HasDerivAt f (F x).d x

variable {F T E : ℝ → Dual ℝ} {f tt e : ℝ → ℝ} {x d : ℝ}

theorem IsLift.of_eq (hd : HasDerivAt f d x) (h : F x = ⟨f x, d⟩) : IsLift F f x := by
  rw [IsLift, h]; exact ⟨rfl, hd⟩

theorem IsLift.exists_eq (h : IsLift F f x) : ∃ d, F x = ⟨f x, d⟩ ∧ HasDerivAt f d x :=
  ⟨(F x).d, by rw [← h.1], h.2⟩

/-- Selection: if the dual test `P` decides like the real test `Q` at `x`, and `Q` does not change
near `x`, the dual `if` is a lift of the real `if` (only the taken branch has to be a lift). -/
theorem IsLift.ite {P Q : ℝ → Prop} [DecidablePred P] [DecidablePred Q] (hPQ : P x ↔ Q x)
    (hev : ∀ᶠ t in 𝓝 x, (Q t ↔ Q x)) (hT : Q x → IsLift T tt x) (hE : ¬ Q x → IsLift E e x) :
    IsLift (fun t => if P t then T t else E t) (fun t => if Q t then tt t else e t) x := by
  by_cases h : Q x
  · refine ⟨?_, ?_⟩ <;> simp only [if_pos (hPQ.mpr h), if_pos h]
    exacts [(hT h).1, (hT h).2.congr_of_eventuallyEq (hev.mono fun t ht => if_pos (ht.mpr h))]
  · refine ⟨?_, ?_⟩ <;> simp only [if_neg (mt hPQ.mp h), if_neg h]
    exacts [(hE h).1, (hE h).2.congr_of_eventuallyEq (hev.mono fun t ht => if_neg (mt ht.mp h))]

theorem eventually_cmp_iff {a b : ℝ → ℝ} (ca : ContinuousAt a x) (cb : ContinuousAt b x) (hne : a x ≠ b x) :
    ∀ᶠ t in 𝓝 x, (a t < b t ↔ a x < b x) ∧ (a t ≤ b t ↔ a x ≤ b x) := by
  rcases lt_or_gt_of_ne hne with h | h
  · exact (ca.eventually_lt cb h).mono fun t ht => ⟨iff_of_true ht h, iff_of_true ht.le h.le⟩
  · exact (cb.eventually_lt ca h).mono fun t ht =>
      ⟨iff_of_false ht.not_gt h.not_gt, iff_of_false ht.not_ge h.not_ge⟩

end Pyhf.Props.C13
