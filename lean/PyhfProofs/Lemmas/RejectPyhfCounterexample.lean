import PyhfProofs.Lemmas.RejectPyhf
/-!
# Counterexamples to "every refusal of `buildModel` is a pyhf exception"

Two minimal specifications (one channel, one sample with an **empty** `data` list, one bin-wise constrained
modifier) on which `buildModel` returns `Err.pyIndexError`, for every number type `K`, every primitive record and
every settings record.  The same documents in pyhf's JSON format: `corpus/C20/counterexample.json` (shapesys),
`counterexample_staterror.json`, `counterexample_staterror_2ch.json`.
-/
set_option linter.unusedSectionVars false
namespace Pyhf.RejectCex

section
variable {K : Type} [Add K] [Sub K] [Mul K] [Div K] [Neg K] [OfNat K 0] [OfNat K 1]
  [OfScientific K] [LT K] [LE K] [DecidableLT K] [DecidableLE K] [BEq K]

/-! ## shapesys on a zero-bin sample: `IndexError` in `shapesys_combined._reindex_access_field` -/

def cexShapesys : Spec K :=
  { channels := [{ name := "c", samples := [{ name := "s", data := [], mods := [{ name := "u", type := .shapesys, lo := [] }] }] }] }

def cfgShapesys : Config :=
  { channels := ["c"], samples := ["s"], modifiers := [("u", .shapesys)], nbins := [("c", 0)] }

theorem shapesys_cfg : mkConfig (cexShapesys : Spec K) = cfgShapesys := by
  simp [mkConfig, cexShapesys, canon, canonPairs, List.eraseDups_cons, lastSome, ModType.str, cfgShapesys]
  decide

/-- **witness 1**: every check up to and including parameter-set creation passes (an empty parameter set `u` is
created); then no sample has a `True` entry in the mask of `u`.  By evaluation, once the channel summary is fixed
(`canon` sorts by well-founded recursion and does not reduce). -/
theorem shapesys_indexError (P : Prim K) (st : Settings K) :
    buildModel P (cexShapesys : Spec K) st = .error .pyIndexError := by
  -- the requirement dictionary first: the elaborator's evaluator shares nothing and would run the seven builders again
  -- at every later use of their result
  have hreq : requiredParamsets P (cexShapesys : Spec K) cfgShapesys = .ok [("u", [reqShapesys P [] []])] := by
    rw [requiredParamsets_eq]; rfl
  rw [buildModel_eq, shapesys_cfg, createParamsets_eq, hreq]
  rfl

/-! ## staterror on a zero-bin sample: `IndexError` in `staterror_builder.finalize` -/

def cexStaterror : Spec K :=
  { channels := [{ name := "c", samples := [{ name := "s", data := [], mods := [{ name := "st", type := .staterror, lo := [] }] }] }] }

def cfgStaterror : Config :=
  { channels := ["c"], samples := ["s"], modifiers := [("st", .staterror)], nbins := [("c", 0)] }

theorem staterror_cfg : mkConfig (cexStaterror : Spec K) = cfgStaterror := by
  simp [mkConfig, cexStaterror, canon, canonPairs, List.eraseDups_cons, lastSome, ModType.str, cfgStaterror]
  decide

/-- **witness 2**: the walk and the length checks pass; `staterrorSigmas` finds no participating sample -/
theorem staterror_indexError (P : Prim K) (st : Settings K) :
    buildModel P (cexStaterror : Spec K) st = .error .pyIndexError := by
  unfold buildModel
  rw [staterror_cfg]
  rfl

/-! ## consequences -/

theorem buildModel_error_isPyhf_refuted (P : Prim K) :
    ¬ ∀ (s : Spec K) (st : Settings K) (e : Err), buildModel P s st = .error e → e.isPyhf = true := by
  intro h
  have := h cexShapesys {} _ (shapesys_indexError P {})
  cases this

/-! both witnesses violate the side condition of `C20.reject_is_pyhf_exception_of_binwiseNonempty` (as they must) -/

theorem shapesys_not_binwiseNonempty (P : Prim K) : binwiseNonempty (cexShapesys : Spec K) = false := by
  rcases buildModel_error_classified P _ {} _ (shapesys_indexError P {}) with h | ⟨_, h⟩
  · cases h
  · exact h

theorem staterror_not_binwiseNonempty (P : Prim K) : binwiseNonempty (cexStaterror : Spec K) = false := by
  rcases buildModel_error_classified P _ {} _ (staterror_indexError P {}) with h | ⟨_, h⟩
  · cases h
  · exact h

end

/-! ## for a replay by hand at `Float`: `show_ s` is what `buildModel` answers -/

def show_ (s : Spec Float) (st : Settings Float := {}) : String :=
  match buildModel floatPrim s st with
  | .ok m => s!"ok npars={m.npars}"
  | .error e => s!"error {e.str} isPyhf={e.isPyhf} binwiseNonempty={binwiseNonempty s} dataNonempty={dataNonempty s}"

/-- two channels: an ordinary one and a zero-bin one carrying the staterror (real pyhf raises the same `IndexError`) -/
def cexStaterror2ch : Spec Float :=
  { channels := [
      { name := "a", samples := [{ name := "s", data := [1.0], mods := [{ name := "mu", type := .normfactor }] }] },
      { name := "c", samples := [{ name := "s2", data := [], mods := [{ name := "st", type := .staterror, lo := [] }] }] }] }

end Pyhf.RejectCex
