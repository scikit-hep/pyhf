import Mathlib.Analysis.SpecialFunctions.Log.Basic
import Mathlib.Algebra.BigOperators.Group.List.Basic
import Mathlib.Tactic.Ring
import Mathlib.Tactic.Linarith
import Mathlib.Tactic.GCongr
import Mathlib.Tactic.Positivity
import Mathlib.Tactic.FieldSimp
import Mathlib.Tactic.NormNum

/-!
Forward-error bounds, in the standard model of floating-point arithmetic (every rounded operation
multiplies its exact result by some `1 + δ`, `|δ| ≤ u`), for the composed log-density formulae

  poisson_logpdf(n, lam)      = xlogy(n, lam) - lam - gammaln(n + 1)
  normal_logpdf(x, mu, sigma) = -log(sigma * sqrt(2*pi)) - ((x - mu) / (sqrt(2) * sigma))^2

The computed value is written as a signed sum of the exact terms, each times the `1 + δ` of the
roundings on its path; `abs_mul_prod_sub_le` bounds one term, `abs_sub_le_add` adds them up.
-/

namespace Pyhf.FwdErr

/-! ### the γ_k-type lemma -/

theorem abs_one_add_le {d u : ℝ} (h : |d| ≤ u) : |1 + d| ≤ 1 + u := by
  have := abs_add_le (1 : ℝ) d
  rw [abs_one] at this
  linarith

/-- The standard lemma: a product of `k` factors `(1 + dᵢ)` with `|dᵢ| ≤ u` equals `1 + θ` with
`|θ| ≤ (1+u)^k − 1`. -/
theorem prod_one_add_sub_one_le (ds : List ℝ) (u : ℝ) (h : ∀ d ∈ ds, |d| ≤ u) :
    |(ds.map (1 + ·)).prod - 1| ≤ (1 + u) ^ ds.length - 1 := by
  induction ds with
  | nil => simp
  | cons d ds ih =>
    obtain ⟨hd, h⟩ := List.forall_mem_cons.mp h
    have ih' := ih h
    simp only [List.map_cons, List.prod_cons, List.length_cons]
    generalize (ds.map (1 + ·)).prod = P at ih' ⊢
    have e : (1 + d) * P - 1 = (P - 1) * (1 + d) + d := by ring
    rw [e]
    have h1d := abs_one_add_le hd
    have hnn := (abs_nonneg _).trans ih'
    calc |(P - 1) * (1 + d) + d| ≤ |(P - 1) * (1 + d)| + |d| := abs_add_le _ _
      _ = |P - 1| * |1 + d| + |d| := by rw [abs_mul]
      _ ≤ ((1 + u) ^ ds.length - 1) * (1 + u) + u := by gcongr
      _ = (1 + u) ^ (ds.length + 1) - 1 := by ring

/-- A term `x` that passes through at most `k` rounded operations is perturbed by at most
`((1+u)^k − 1)·|x|`. -/
theorem abs_mul_prod_sub_le (x u : ℝ) (hu : 0 ≤ u) (ds : List ℝ) (h : ∀ d ∈ ds, |d| ≤ u)
    (k : ℕ) (hk : ds.length ≤ k) :
    |x * (ds.map (1 + ·)).prod - x| ≤ ((1 + u) ^ k - 1) * |x| := by
  have e : x * (ds.map (1 + ·)).prod - x = ((ds.map (1 + ·)).prod - 1) * x := by ring
  rw [e, abs_mul]
  exact mul_le_mul_of_nonneg_right ((prod_one_add_sub_one_le ds u h).trans
    (sub_le_sub_right (pow_le_pow_right₀ (le_add_of_nonneg_right hu) hk) 1)) (abs_nonneg x)

theorem abs_sub_le_add {a b x y : ℝ} (ha : |a| ≤ x) (hb : |b| ≤ y) : |a - b| ≤ x + y :=
  (abs_sub a b).trans (add_le_add ha hb)

/-! ### Poisson -/

/-- Forward error of `poisson_logpdf(n, lam) = xlogy(n, lam) − lam − gammaln(n+1)`.

Exact terms: `A = n · log lam`, `B = lam`, `C = lgamma (n+1)`.
Expression tree of the computed value:
* `A (1+δ₁)(1+δ₂)`  — `δ₁` the `log` primitive, `δ₂` the multiplication (together: `xlogy`);
* `(… − B)(1+δ₃)`   — first subtraction (`B = lam` is an input, not rounded);
* `C (1+δ₄)`        — the `gammaln` primitive;
* `(… − …)(1+δ₅)`   — second subtraction.
The longest path (that of `A`) carries 4 roundings, hence `k = 4`.  The bound is relative to
`|A| + |B| + |C|`, not to `|A − B − C|`: cancellation between the terms is not an error of the formula. -/
theorem poisson_logpdf_forward_error (u : ℝ) (hu : 0 ≤ u) (A B C : ℝ) (δ₁ δ₂ δ₃ δ₄ δ₅ : ℝ)
    (h₁ : |δ₁| ≤ u) (h₂ : |δ₂| ≤ u) (h₃ : |δ₃| ≤ u) (h₄ : |δ₄| ≤ u) (h₅ : |δ₅| ≤ u) :
    |(((A * (1 + δ₁) * (1 + δ₂) - B) * (1 + δ₃) - C * (1 + δ₄)) * (1 + δ₅)) - (A - B - C)|
      ≤ ((1 + u) ^ 4 - 1) * (|A| + |B| + |C|) := by
  have hA := abs_mul_prod_sub_le A u hu [δ₁, δ₂, δ₃, δ₅] (by simp [*]) 4 (by simp)
  have hB := abs_mul_prod_sub_le B u hu [δ₃, δ₅] (by simp [*]) 4 (by simp)
  have hC := abs_mul_prod_sub_le C u hu [δ₄, δ₅] (by simp [*]) 4 (by simp)
  simp only [List.map_cons, List.map_nil, List.prod_cons, List.prod_nil, mul_one] at hA hB hC
  have key : (((A * (1 + δ₁) * (1 + δ₂) - B) * (1 + δ₃) - C * (1 + δ₄)) * (1 + δ₅)) - (A - B - C)
      = (A * ((1 + δ₁) * ((1 + δ₂) * ((1 + δ₃) * (1 + δ₅)))) - A)
        - (B * ((1 + δ₃) * (1 + δ₅)) - B) - (C * ((1 + δ₄) * (1 + δ₅)) - C) := by ring
  rw [key]
  exact (abs_sub_le_add (abs_sub_le_add hA hB) hC).trans_eq (by ring)

/-! ### Normal -/

/-- Generic form of the Normal bound.  `εs` are the relative perturbations on the path of `T₂` (any
number `m` of them), each bounded by `v`; the two roundings `δ₁` (the `log` primitive) and `δ₂` (the
final addition) are bounded by `u ≤ v`.  `k = m + 1` (the `+1` is the final rounded addition; `m ≥ 1` is assumed
because the path of `T₁` already carries two roundings).
See `normal_logpdf_forward_error` (m = 5, v = u) and `normal_logpdf_forward_error_tree`
(the literal expression tree: m = 9, v = u/(1−u)). -/
theorem normal_logpdf_forward_error_list (u v : ℝ) (hu : 0 ≤ u) (huv : u ≤ v)
    (T₁ T₂ η η₀ : ℝ) (δ₁ δ₂ : ℝ)
    (εs : List ℝ) (hm : 1 ≤ εs.length)
    (hη : |η| ≤ η₀) (h₁ : |δ₁| ≤ u) (h₂ : |δ₂| ≤ u) (hε : ∀ e ∈ εs, |e| ≤ v) :
    |((-((T₁ + η) * (1 + δ₁))) + (-(T₂ * (εs.map (1 + ·)).prod))) * (1 + δ₂) - (-T₁ - T₂)|
      ≤ ((1 + v) ^ (εs.length + 1) - 1) * (|T₁| + |T₂|) + (1 + u) ^ 2 * η₀ := by
  have hv : 0 ≤ v := hu.trans huv
  have h₂' := h₂.trans huv
  have hT₁ := abs_mul_prod_sub_le T₁ v hv [δ₁, δ₂]
    (List.forall_mem_cons.mpr ⟨h₁.trans huv, List.forall_mem_singleton.mpr h₂'⟩) (εs.length + 1)
    (Nat.succ_le_succ hm)
  have hT₂ := abs_mul_prod_sub_le T₂ v hv (δ₂ :: εs) (List.forall_mem_cons.mpr ⟨h₂', hε⟩)
    (εs.length + 1) le_rfl
  simp only [List.map_cons, List.map_nil, List.prod_cons, List.prod_nil, mul_one] at hT₁ hT₂
  generalize (εs.map (1 + ·)).prod = P at hT₂ ⊢
  have hηe : |η * ((1 + δ₁) * (1 + δ₂))| ≤ (1 + u) ^ 2 * η₀ := by
    have a₁ := abs_one_add_le h₁
    have a₂ := abs_one_add_le h₂
    have hη₀ : 0 ≤ η₀ := (abs_nonneg η).trans hη
    rw [abs_mul, abs_mul]
    calc |η| * (|1 + δ₁| * |1 + δ₂|) ≤ η₀ * ((1 + u) * (1 + u)) := by gcongr
      _ = (1 + u) ^ 2 * η₀ := by ring
  have key : ((-((T₁ + η) * (1 + δ₁))) + (-(T₂ * P))) * (1 + δ₂) - (-T₁ - T₂)
      = -(T₁ * ((1 + δ₁) * (1 + δ₂)) - T₁) - (T₂ * ((1 + δ₂) * P) - T₂)
        - η * ((1 + δ₁) * (1 + δ₂)) := by ring
  rw [key]
  exact (abs_sub_le_add (abs_sub_le_add ((abs_neg _).trans_le hT₁) hT₂) hηe).trans_eq (by ring)

/-- Forward error of
`normal_logpdf(x, mu, sigma) = −log(sigma·sqrt(2π)) − ((x − mu)/(sqrt 2 · sigma))^2`
with one relative perturbation for each of the `m = 5` rounded operations on the path of `T₂`.

Exact terms: `T₁ = log (σ·√(2π))`, `T₂ = ((x−μ)/(√2·σ))²`.
Expression tree of the computed value:
* the argument `σ·√(2π)` of the logarithm is computed with relative roundings (`2π`, `sqrt`, product);
  since `log (z(1+θ)) = log z + log (1+θ)`, this is an *absolute* perturbation `η = log (1+θ)` of `T₁`,
  `|η| ≤ η₀` (see `abs_log_mul_one_add_sub_le`: `η₀ = γ/(1−γ)`, `γ = (1+u)^3 − 1`);
* `(T₁ + η)(1+δ₁)` — the `log` primitive; the unary minus is exact;
* `T₂ (1+ε₁)…(1+ε₅)` — one perturbation for each of the five rounded operations on the path of `T₂`:
  `ε₁` subtraction `x − mu`, `ε₂` `sqrt 2`, `ε₃` multiplication `sqrt 2 · sigma`, `ε₄` division,
  `ε₅` squaring;
* `(… + …)(1+δ₂)` — the final addition of the two (negated) terms.
Hence `k = m + 1 = 6`.

"One factor `(1+ε)` per operation" is the first-order normal form.  Literally, the roundings `ε₂, ε₃` sit in the
denominator (factor `1/(1+ε)`), and the squaring doubles every perturbation made before it: the literal tree is
`normal_logpdf_forward_error_tree` — 9 factors, each `1 + ε'` with `|ε'| ≤ u/(1−u)`, hence `k = 10` with `u/(1−u)` in place of `u`. -/
theorem normal_logpdf_forward_error (u : ℝ) (hu : 0 ≤ u) (T₁ T₂ η η₀ : ℝ)
    (δ₁ δ₂ ε₁ ε₂ ε₃ ε₄ ε₅ : ℝ) (hη : |η| ≤ η₀) (h₁ : |δ₁| ≤ u) (h₂ : |δ₂| ≤ u)
    (e₁ : |ε₁| ≤ u) (e₂ : |ε₂| ≤ u) (e₃ : |ε₃| ≤ u) (e₄ : |ε₄| ≤ u) (e₅ : |ε₅| ≤ u) :
    |((-((T₁ + η) * (1 + δ₁)))
        + (-(T₂ * (1 + ε₁) * (1 + ε₂) * (1 + ε₃) * (1 + ε₄) * (1 + ε₅)))) * (1 + δ₂) - (-T₁ - T₂)|
      ≤ ((1 + u) ^ 6 - 1) * (|T₁| + |T₂|) + (1 + u) ^ 2 * η₀ := by
  have h := normal_logpdf_forward_error_list u u hu le_rfl T₁ T₂ η η₀ δ₁ δ₂ [ε₁, ε₂, ε₃, ε₄, ε₅]
    (by simp) hη h₁ h₂ (by simp [*])
  simp only [List.map_cons, List.map_nil, List.prod_cons, List.prod_nil, mul_one,
    List.length_cons, List.length_nil] at h
  have e : T₂ * (1 + ε₁) * (1 + ε₂) * (1 + ε₃) * (1 + ε₄) * (1 + ε₅)
      = T₂ * ((1 + ε₁) * ((1 + ε₂) * ((1 + ε₃) * ((1 + ε₄) * (1 + ε₅))))) := by ring
  rw [e]
  exact h

/-- A rounding in a denominator: `1/(1+ε) = 1 + ε'` with `|ε'| ≤ u/(1−u)`. -/
theorem inv_one_add_eq (ε u : ℝ) (h : |ε| ≤ u) (hu1 : u < 1) :
    ∃ ε', (1 + ε)⁻¹ = 1 + ε' ∧ |ε'| ≤ u / (1 - u) := by
  obtain ⟨hl, hr⟩ := abs_le.mp h
  have hpos : 0 < 1 + ε := by linarith
  have h1u : 0 < 1 - u := by linarith
  refine ⟨(1 + ε)⁻¹ - 1, by ring, ?_⟩
  have e : (1 + ε)⁻¹ - 1 = -ε / (1 + ε) := by field_simp; ring
  rw [e, abs_div, abs_neg, abs_of_pos hpos]
  exact div_le_div₀ ((abs_nonneg ε).trans h) h h1u (by linarith)

/-- The Normal bound for the *literal* expression tree
`(−(log(…)) ) + (−( ((x−μ)/(√2·σ))² ))`, every operation rounded:
* `D = x − μ` exact difference, computed `D(1+ε₁)`;
* `r = √2` exact, computed `r(1+ε₂)`; product with `σ`: `r(1+ε₂)·σ·(1+ε₃)`;
* quotient `(…/…)(1+ε₄)`; square `(…)²(1+ε₅)`;
* `T₁`-branch and final addition as in `normal_logpdf_forward_error`.
The computed square equals `T₂·(1+ε₁)²(1+ε₂)⁻²(1+ε₃)⁻²(1+ε₄)²(1+ε₅)`: nine factors of the form
`1 + ε'`, `|ε'| ≤ v := u/(1−u)`, so `k = 9 + 1 = 10` with `v` in place of `u`
(note `1 + v = 1/(1−u)`). -/
theorem normal_logpdf_forward_error_tree (u : ℝ) (hu : 0 ≤ u) (hu1 : u < 1) (D r σ T₁ η η₀ : ℝ)
    (δ₁ δ₂ ε₁ ε₂ ε₃ ε₄ ε₅ : ℝ) (hη : |η| ≤ η₀) (h₁ : |δ₁| ≤ u) (h₂ : |δ₂| ≤ u)
    (e₁ : |ε₁| ≤ u) (e₂ : |ε₂| ≤ u) (e₃ : |ε₃| ≤ u) (e₄ : |ε₄| ≤ u) (e₅ : |ε₅| ≤ u) :
    |((-((T₁ + η) * (1 + δ₁)))
        + (-(((D * (1 + ε₁)) / ((r * (1 + ε₂)) * σ * (1 + ε₃)) * (1 + ε₄)) ^ 2 * (1 + ε₅))))
          * (1 + δ₂) - (-T₁ - (D / (r * σ)) ^ 2)|
      ≤ ((1 + u / (1 - u)) ^ 10 - 1) * (|T₁| + |(D / (r * σ)) ^ 2|) + (1 + u) ^ 2 * η₀ := by
  have huv := le_div_self hu (sub_pos.mpr hu1) (sub_le_self 1 hu)
  obtain ⟨ε₂', i₂, b₂⟩ := inv_one_add_eq ε₂ u e₂ hu1
  obtain ⟨ε₃', i₃, b₃⟩ := inv_one_add_eq ε₃ u e₃ hu1
  have h := normal_logpdf_forward_error_list u (u / (1 - u)) hu huv T₁ ((D / (r * σ)) ^ 2) η η₀ δ₁ δ₂
    [ε₁, ε₁, ε₂', ε₂', ε₃', ε₃', ε₄, ε₄, ε₅] (by simp) hη h₁ h₂
    (by simp [e₁.trans huv, b₂, b₃, e₄.trans huv, e₅.trans huv])
  simp only [List.map_cons, List.map_nil, List.prod_cons, List.prod_nil, mul_one,
    List.length_cons, List.length_nil] at h
  have e : ((D * (1 + ε₁)) / ((r * (1 + ε₂)) * σ * (1 + ε₃)) * (1 + ε₄)) ^ 2 * (1 + ε₅)
      = (D / (r * σ)) ^ 2 * ((1 + ε₁) * ((1 + ε₁) * ((1 + ε₂') * ((1 + ε₂') * ((1 + ε₃') *
          ((1 + ε₃') * ((1 + ε₄) * ((1 + ε₄) * (1 + ε₅))))))))) := by
    rw [← i₂, ← i₃]
    -- no cancellation is needed, so `ring` does it once the denominators are atoms
    generalize 1 + ε₂ = x₂, 1 + ε₃ = x₃
    ring
  rw [e]
  exact h

/-! ### the perturbation of the logarithm -/

theorem abs_log_one_add_le (θ γ : ℝ) (hθ : |θ| ≤ γ) (hγ : γ < 1) :
    |Real.log (1 + θ)| ≤ γ / (1 - γ) := by
  obtain ⟨hl, hr⟩ := abs_le.mp hθ
  have hγ0 : 0 ≤ γ := (abs_nonneg θ).trans hθ
  have h1γ : 0 < 1 - γ := by linarith
  have hpos : 0 < 1 + θ := by linarith
  have hup := le_div_self hγ0 h1γ (sub_le_self 1 hγ0)
  rw [abs_le]
  constructor
  · have h1 := Real.one_sub_inv_le_log_of_pos hpos
    have h2 : (1 + θ)⁻¹ ≤ (1 - γ)⁻¹ := inv_anti₀ h1γ (by linarith)
    have h3 : 1 + γ / (1 - γ) = (1 - γ)⁻¹ := by field_simp; ring
    linarith
  · have h1 := Real.log_le_sub_one_of_pos hpos
    linarith

/-- A relative perturbation `θ` of the argument of `log` is an absolute perturbation of its value:
`|log (z(1+θ)) − log z| ≤ γ/(1−γ)` for `|θ| ≤ γ < 1`, `z > 0`.  For the argument `σ·√(2π)`
(three roundings) `γ = (1+u)^3 − 1` by `prod_one_add_sub_one_le`. -/
theorem abs_log_mul_one_add_sub_le (z θ γ : ℝ) (hz : 0 < z) (hθ : |θ| ≤ γ) (hγ : γ < 1) :
    |Real.log (z * (1 + θ)) - Real.log z| ≤ γ / (1 - γ) := by
  have hpos : 0 < 1 + θ := by
    have := (abs_le.mp hθ).1; linarith
  rw [Real.log_mul hz.ne' hpos.ne']
  have e : Real.log z + Real.log (1 + θ) - Real.log z = Real.log (1 + θ) := by ring
  rw [e]
  exact abs_log_one_add_le θ γ hθ hγ

/-- The Normal bound with the logarithm explicit: `T₁ = log z` (`z = σ·√(2π) > 0` exact), the computed
argument is `z(1+θ)` with `|θ| ≤ γ < 1`; the absolute term is `(1+u)^2 · γ/(1−γ)`. -/
theorem normal_logpdf_forward_error_log (u : ℝ) (hu : 0 ≤ u) (z T₂ θ γ : ℝ) (hz : 0 < z)
    (hθ : |θ| ≤ γ) (hγ : γ < 1)
    (δ₁ δ₂ ε₁ ε₂ ε₃ ε₄ ε₅ : ℝ) (h₁ : |δ₁| ≤ u) (h₂ : |δ₂| ≤ u)
    (e₁ : |ε₁| ≤ u) (e₂ : |ε₂| ≤ u) (e₃ : |ε₃| ≤ u) (e₄ : |ε₄| ≤ u) (e₅ : |ε₅| ≤ u) :
    |((-(Real.log (z * (1 + θ)) * (1 + δ₁)))
        + (-(T₂ * (1 + ε₁) * (1 + ε₂) * (1 + ε₃) * (1 + ε₄) * (1 + ε₅)))) * (1 + δ₂)
        - (-Real.log z - T₂)|
      ≤ ((1 + u) ^ 6 - 1) * (|Real.log z| + |T₂|) + (1 + u) ^ 2 * (γ / (1 - γ)) := by
  have hη := abs_log_mul_one_add_sub_le z θ γ hz hθ hγ
  have h := normal_logpdf_forward_error u hu (Real.log z) T₂
    (Real.log (z * (1 + θ)) - Real.log z) (γ / (1 - γ)) δ₁ δ₂ ε₁ ε₂ ε₃ ε₄ ε₅ hη h₁ h₂ e₁ e₂ e₃ e₄ e₅
  have e : Real.log z + (Real.log (z * (1 + θ)) - Real.log z) = Real.log (z * (1 + θ)) := by ring
  rw [e] at h
  exact h

/-! ### "a few units of rounding" -/

theorem pow_sub_one_le_two_mul (u : ℝ) (hu : 0 ≤ u) (k : ℕ) (h : 2 * (k : ℝ) * u ≤ 1) :
    (1 + u) ^ k - 1 ≤ 2 * (k : ℝ) * u := by
  induction k with
  | zero => simp
  | succ k ih =>
    have hk : 2 * (k : ℝ) * u ≤ 1 := by
      push_cast at h; linarith
    have ih' := ih hk
    have hkn : (0 : ℝ) ≤ k := Nat.cast_nonneg k
    push_cast
    have : (1 + u) ^ (k + 1) = (1 + u) ^ k * (1 + u) := pow_succ _ _
    nlinarith [mul_nonneg hkn hu, mul_nonneg (mul_nonneg hkn hu) hu]

theorem pow_sub_one_le_of_small (u : ℝ) (hu : 0 ≤ u) (hu' : u ≤ 1 / 100) (k : ℕ) (hk : k ≤ 8) :
    (1 + u) ^ k - 1 ≤ 2 * (k : ℝ) * u := by
  apply pow_sub_one_le_two_mul u hu k
  have hk' : (k : ℝ) ≤ 8 := by exact_mod_cast hk
  linarith [mul_le_mul hk' hu' hu (by norm_num : (0 : ℝ) ≤ 8)]

/-- Poisson: the error is at most `8u` (`= 2·4·u`) times the sum of the absolute values of the terms. -/
theorem poisson_logpdf_forward_error_units (u : ℝ) (hu : 0 ≤ u) (hu' : u ≤ 1 / 100) (A B C : ℝ)
    (δ₁ δ₂ δ₃ δ₄ δ₅ : ℝ)
    (h₁ : |δ₁| ≤ u) (h₂ : |δ₂| ≤ u) (h₃ : |δ₃| ≤ u) (h₄ : |δ₄| ≤ u) (h₅ : |δ₅| ≤ u) :
    |(((A * (1 + δ₁) * (1 + δ₂) - B) * (1 + δ₃) - C * (1 + δ₄)) * (1 + δ₅)) - (A - B - C)|
      ≤ 8 * u * (|A| + |B| + |C|) := by
  have h := poisson_logpdf_forward_error u hu A B C δ₁ δ₂ δ₃ δ₄ δ₅ h₁ h₂ h₃ h₄ h₅
  have hk := pow_sub_one_le_of_small u hu hu' 4 (by norm_num)
  have hs : 0 ≤ |A| + |B| + |C| := by positivity
  refine h.trans ?_
  have : (1 + u) ^ 4 - 1 ≤ 8 * u := by push_cast at hk; linarith
  exact mul_le_mul_of_nonneg_right this hs

/-- Normal: the error is at most `12u·(|T₁|+|T₂|)` plus the (slightly amplified) absolute
perturbation of the logarithm. -/
theorem normal_logpdf_forward_error_units (u : ℝ) (hu : 0 ≤ u) (hu' : u ≤ 1 / 100)
    (T₁ T₂ η η₀ : ℝ)
    (δ₁ δ₂ ε₁ ε₂ ε₃ ε₄ ε₅ : ℝ) (hη : |η| ≤ η₀) (h₁ : |δ₁| ≤ u) (h₂ : |δ₂| ≤ u)
    (e₁ : |ε₁| ≤ u) (e₂ : |ε₂| ≤ u) (e₃ : |ε₃| ≤ u) (e₄ : |ε₄| ≤ u) (e₅ : |ε₅| ≤ u) :
    |((-((T₁ + η) * (1 + δ₁)))
        + (-(T₂ * (1 + ε₁) * (1 + ε₂) * (1 + ε₃) * (1 + ε₄) * (1 + ε₅)))) * (1 + δ₂) - (-T₁ - T₂)|
      ≤ 12 * u * (|T₁| + |T₂|) + (1 + u) ^ 2 * η₀ := by
  have h := normal_logpdf_forward_error u hu T₁ T₂ η η₀ δ₁ δ₂ ε₁ ε₂ ε₃ ε₄ ε₅ hη h₁ h₂ e₁ e₂ e₃ e₄ e₅
  have hk := pow_sub_one_le_of_small u hu hu' 6 (by norm_num)
  refine h.trans ?_
  have : (1 + u) ^ 6 - 1 ≤ 12 * u := by push_cast at hk; linarith
  gcongr

/-- The literal expression tree of the Normal log-density, `u ≤ 1/100`: the error is at most
`21u·(|T₁|+|T₂|)` (`2·10·u/(1−u) ≤ 20u/0.99`) plus the absolute perturbation of the logarithm. -/
theorem normal_logpdf_forward_error_tree_units (u : ℝ) (hu : 0 ≤ u) (hu' : u ≤ 1 / 100)
    (D r σ T₁ η η₀ : ℝ) (hr : r ≠ 0) (hσ : σ ≠ 0)
    (δ₁ δ₂ ε₁ ε₂ ε₃ ε₄ ε₅ : ℝ) (hη : |η| ≤ η₀) (h₁ : |δ₁| ≤ u) (h₂ : |δ₂| ≤ u)
    (e₁ : |ε₁| ≤ u) (e₂ : |ε₂| ≤ u) (e₃ : |ε₃| ≤ u) (e₄ : |ε₄| ≤ u) (e₅ : |ε₅| ≤ u) :
    |((-((T₁ + η) * (1 + δ₁)))
        + (-(((D * (1 + ε₁)) / ((r * (1 + ε₂)) * σ * (1 + ε₃)) * (1 + ε₄)) ^ 2 * (1 + ε₅))))
          * (1 + δ₂) - (-T₁ - (D / (r * σ)) ^ 2)|
      ≤ 21 * u * (|T₁| + |(D / (r * σ)) ^ 2|) + (1 + u) ^ 2 * η₀ := by
  have hu1 : u < 1 := by linarith
  have hv0 : 0 ≤ u / (1 - u) := div_nonneg hu (by linarith)
  have hv : u / (1 - u) ≤ u / (99 / 100) := div_le_div_of_nonneg_left hu (by norm_num) (by linarith)
  have hk := pow_sub_one_le_two_mul (u / (1 - u)) hv0 10 (by push_cast; linarith)
  have : (1 + u / (1 - u)) ^ 10 - 1 ≤ 21 * u := by push_cast at hk; linarith
  refine (normal_logpdf_forward_error_tree u hu hu1 D r σ T₁ η η₀ δ₁ δ₂ ε₁ ε₂ ε₃ ε₄ ε₅
    hη h₁ h₂ e₁ e₂ e₃ e₄ e₅).trans ?_
  gcongr

end Pyhf.FwdErr
