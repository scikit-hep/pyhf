import PyhfModel.Tensor
import PyhfProofs.Lemmas.Canon
/-!
# What the lookups and the raw-order checks of a specification say

The construction path reads a specification through "last definition wins" lookups (`lastSome`, `findSample`,
`findMod`), the channel summary `mkConfig`, and two scans of the raw lists (`specDuplicates`, `shapesysReuse`).
Here each is characterised without reference to the listing order: the duplicate scan as `SpecND`, the lookups of a
duplicate-free specification as membership (`findSample_some`, `findSample_of_nd`), the reported bin count as the
length read off the last channel of that name (`mkConfig_nbOf`; `mkConfig_ext`), and the shapesys re-use check as a
pairwise condition on the flattened modifier list (`shapesysReuse_false_iff`).  (Namespace `Pyhf.PermInv`: what is
characterised here is what a reordering leaves unchanged.)
-/
set_option linter.unusedSectionVars false
namespace Pyhf.PermInv

/-! ## `hasDup`, `lastSome`, a filter with at most one candidate -/

theorem hasDup_false_iff : ∀ (xs : List String), hasDup xs = false ↔ xs.Nodup
  | [] => by simp [hasDup]
  | x :: xs => by
    unfold hasDup
    rw [Bool.or_eq_false_iff, hasDup_false_iff xs, List.nodup_cons]
    simp

theorem lastSome_some {α : Type} (p : α → Bool) (l : List α) (a : α) (h : lastSome p l = some a) :
    a ∈ l ∧ p a = true := by
  have := List.mem_of_getLast? h
  exact List.mem_filter.mp this

theorem lastSome_none {α : Type} (p : α → Bool) (l : List α) :
    lastSome p l = none ↔ ∀ a ∈ l, p a = false := by
  unfold lastSome
  simp

theorem lastSome_of_unique {α : Type} (p : α → Bool) (l : List α)
    (hu : ∀ a ∈ l, ∀ b ∈ l, p a = true → p b = true → a = b) (a : α) (ha : a ∈ l) (hp : p a = true) :
    lastSome p l = some a := by
  cases h : lastSome p l with
  | none => rw [lastSome_none] at h; rw [h a ha] at hp; cases hp
  | some b =>
    obtain ⟨hb, hpb⟩ := lastSome_some p l b h
    rw [hu a ha b hb hp hpb]

theorem filter_unique_perm {α : Type} (p : α → Bool) (l l' : List α) (h : l.Perm l')
    (hu : ∀ a ∈ l, ∀ b ∈ l, p a = true → p b = true → a = b) (hnd : l.Nodup) :
    l.filter p = l'.filter p := by
  -- a duplicate-free list with at most one element: vacuously sorted for the empty relation, as is its permutation
  have h1 : (l.filter p).Pairwise fun _ _ => False :=
    (hnd.filter p).imp_of_mem fun ha hb hne =>
      hne (hu _ (List.mem_filter.mp ha).1 _ (List.mem_filter.mp hb).1 (List.mem_filter.mp ha).2 (List.mem_filter.mp hb).2)
  exact (h.filter p).eq_of_pairwise (fun _ _ _ _ hf => hf.elim) h1 (((h.filter p).pairwise_iff fun hf => hf).mp h1)

section
variable {K : Type}

/-! ## duplicate-freeness -/

def modKey (m : Modifier K) : String := m.type.str ++ "/" ++ m.name

structure SpecND (s : Spec K) : Prop where
  chans : (s.channels.map (·.name)).Nodup
  samps : ∀ ch ∈ s.channels, (ch.samples.map (·.name)).Nodup
  mods : ∀ ch ∈ s.channels, ∀ x ∈ ch.samples, (x.mods.map modKey).Nodup

theorem specDuplicates_false_iff (s : Spec K) : specDuplicates s = false ↔ SpecND s := by
  simp only [specDuplicates, Bool.or_eq_false_iff, List.any_eq_false, Bool.or_eq_true, not_or, Bool.not_eq_true,
    List.any_eq_true, not_exists, not_and, hasDup_false_iff]
  exact ⟨fun ⟨h1, h2⟩ => ⟨h1, fun ch hch => (h2 ch hch).1, fun ch hch => (h2 ch hch).2⟩,
    fun ⟨h1, h2, h3⟩ => ⟨h1, fun ch hch => ⟨h2 ch hch, h3 ch hch⟩⟩⟩

/-! ## cell lookups -/

theorem uniq_of_nodup_map {α : Type} (key : α → String) (l : List α) (hn : (l.map key).Nodup) (k : String) :
    ∀ a ∈ l, ∀ b ∈ l, (key a == k) = true → (key b == k) = true → a = b := by
  intro a ha b hb h1 h2
  have h1 : key a = k := by simpa using h1
  have h2 : key b = k := by simpa using h2
  exact List.inj_on_of_nodup_map hn ha hb (h1.trans h2.symm)

theorem findSample_some (s : Spec K) (c sm : String) (x : Sample K) (h : findSample s c sm = some x) :
    ∃ ch ∈ s.channels, ch.name = c ∧ x ∈ ch.samples ∧ x.name = sm := by
  obtain ⟨hmem, hp⟩ := lastSome_some _ _ _ h
  obtain ⟨ch, hch, hx⟩ := List.mem_flatMap.mp hmem
  obtain ⟨hch1, hch2⟩ := List.mem_filter.mp hch
  exact ⟨ch, hch1, by simpa using hch2, hx, by simpa using hp⟩

theorem findSample_of_nd (s : Spec K) (hn : SpecND s) (ch : Channel K) (hch : ch ∈ s.channels)
    (x : Sample K) (hx : x ∈ ch.samples) : findSample s ch.name x.name = some x := by
  apply lastSome_of_unique
  · intro a ha b hb pa pb
    obtain ⟨ca, hca, hxa⟩ := List.mem_flatMap.mp ha
    obtain ⟨cb, hcb, hxb⟩ := List.mem_flatMap.mp hb
    obtain ⟨hca1, hca2⟩ := List.mem_filter.mp hca
    obtain ⟨hcb1, hcb2⟩ := List.mem_filter.mp hcb
    have : ca = cb := uniq_of_nodup_map (·.name) _ hn.chans ch.name ca hca1 cb hcb1 hca2 hcb2
    subst this
    exact uniq_of_nodup_map (·.name) _ (hn.samps ca hca1) x.name a hxa b hxb pa pb
  · exact List.mem_flatMap.mpr ⟨ch, List.mem_filter.mpr ⟨hch, by simp⟩, hx⟩
  · simp

theorem findMod_some (x : Sample K) (n : String) (t : ModType) (m : Modifier K) (h : findMod x n t = some m) :
    m ∈ x.mods ∧ m.name = n ∧ m.type = t := by
  simpa using lastSome_some _ _ _ h

theorem findSample_none_of (s : Spec K) (c sm : String)
    (h : ∀ ch ∈ s.channels, ch.name = c → ∀ x ∈ ch.samples, x.name ≠ sm) : findSample s c sm = none := by
  cases hf : findSample s c sm with
  | none => rfl
  | some x =>
    obtain ⟨ch, hch, h1, h2, h3⟩ := findSample_some s c sm x hf
    exact absurd h3 (h ch hch h1 x h2)

/-! ## the channel summary -/

theorem find_map_pair_mem (l : List String) (f : String → Nat) (c : String) (hc : c ∈ l) :
    ((l.map fun c => (c, f c)).find? (·.1 == c)).map (·.2) = some (f c) := by
  induction l with
  | nil => cases hc
  | cons a l ih =>
    rw [List.map_cons, List.find?_cons]
    by_cases h : a = c
    · rw [h, beq_self_eq_true]; rfl
    · rw [beq_false_of_ne h]
      exact ih ((List.mem_cons.mp hc).resolve_left (Ne.symm h))

theorem find_map_pair_none (l : List String) (f : String → Nat) (c : String) (hc : c ∉ l) :
    (l.map fun c => (c, f c)).find? (·.1 == c) = none := by
  rw [List.find?_eq_none]
  intro x hx
  obtain ⟨a, ha, rfl⟩ := List.mem_map.mp hx
  exact fun e => hc ((beq_iff_eq.mp e) ▸ ha)

theorem mem_cfg_channels (s : Spec K) (c : String) :
    c ∈ (mkConfig s).channels ↔ ∃ ch ∈ s.channels, ch.name = c := by
  simp only [mkConfig, canon_mem, List.mem_map]

theorem mem_cfg_samples (s : Spec K) (sm : String) :
    sm ∈ (mkConfig s).samples ↔ ∃ ch ∈ s.channels, ∃ x ∈ ch.samples, x.name = sm := by
  simp only [mkConfig, canon_mem, List.mem_flatMap, List.mem_map]

theorem ofStr?_str (t : ModType) : ModType.ofStr? t.str = some t := by
  cases t <;> decide

theorem mem_cfg_modifiers (s : Spec K) (n : String) (t : ModType) :
    (n, t) ∈ (mkConfig s).modifiers ↔
      ∃ ch ∈ s.channels, ∃ x ∈ ch.samples, ∃ m ∈ x.mods, m.name = n ∧ m.type = t := by
  simp only [mkConfig, List.mem_filterMap, canonPairs_mem, List.mem_flatMap, List.mem_map]
  constructor
  · rintro ⟨_, ⟨ch, hch, x, hx, m, hm, rfl⟩, h⟩
    simp only [ofStr?_str, Option.map_some, Option.some.injEq, Prod.mk.injEq] at h
    exact ⟨ch, hch, x, hx, m, hm, h.1, h.2⟩
  · rintro ⟨ch, hch, x, hx, m, hm, rfl, rfl⟩
    exact ⟨_, ⟨ch, hch, x, hx, m, hm, rfl⟩, by simp only [ofStr?_str, Option.map_some]⟩

/-- `len(channel['samples'][0]['data'])` (`mixins.py`) -/
def chanLen (ch : Channel K) : Nat := (ch.samples.head?.map (·.data.length)).getD 0

/-- the reported bin count of `c` is read off the first listed sample of the last channel called `c` -/
theorem mkConfig_nbOf (s : Spec K) (c : String) :
    (mkConfig s).nbOf c = ((lastSome (·.name == c) s.channels).map chanLen).getD 0 := by
  simp only [Config.nbOf, mkConfig]
  by_cases hc : c ∈ canon (s.channels.map (·.name))
  · rw [find_map_pair_mem _ _ c hc]
    cases lastSome (·.name == c) s.channels <;> rfl
  · have h1 : lastSome (·.name == c) s.channels = none := by
      rw [lastSome_none]
      intro ch hch
      rw [canon_mem] at hc
      exact beq_false_of_ne fun e => hc (List.mem_map.mpr ⟨ch, hch, e⟩)
    rw [h1, find_map_pair_none _ _ c hc]; rfl

theorem mkConfig_nbins (s : Spec K) :
    (mkConfig s).nbins = (mkConfig s).channels.map fun c => (c, (mkConfig s).nbOf c) := by
  refine List.map_congr_left fun c hc => congrArg (Prod.mk c) ?_
  simp only [Config.nbOf, mkConfig]
  rw [find_map_pair_mem _ _ c hc]; rfl

theorem mkConfig_ext {s s' : Spec K} (hc : (mkConfig s).channels = (mkConfig s').channels)
    (hs : (mkConfig s).samples = (mkConfig s').samples) (hm : (mkConfig s).modifiers = (mkConfig s').modifiers)
    (hn : ∀ c, (mkConfig s).nbOf c = (mkConfig s').nbOf c) : mkConfig s = mkConfig s' := by
  have hb := mkConfig_nbins s
  rw [hc, funext hn, ← mkConfig_nbins s'] at hb
  cases h1 : mkConfig s; cases h2 : mkConfig s'
  simp only [h1, h2] at hc hs hm hb
  rw [hc, hs, hm, hb]

end

/-! ## the shapesys re-use check -/
section
variable {K : Type} [Add K] [Sub K] [Mul K] [Div K] [Neg K] [OfNat K 0] [OfNat K 1]
  [OfScientific K] [LT K] [LE K] [DecidableLT K] [DecidableLE K] [BEq K]

/-- one step of the check run as a single loop over all modifiers of the specification: the keys seen so far, and whether a
non-shared key has come twice -/
def flatStep (st : List String × Bool) (m : Modifier K) : List String × Bool :=
  (st.1 ++ [modKey m], st.2 || (!m.type.isShared && st.1.contains (modKey m)))

/-! the two nested loops of `shapesysReuse` under names: `innerStep` over the modifiers of one sample (`seen` = keys of the
earlier samples), `outerStep` over the samples -/
def innerStep (seen : List String) (acc : List String × Bool) (m : Modifier K) : List String × Bool :=
  (acc.1 ++ [modKey m], acc.2 || (!m.type.isShared && (seen.contains (modKey m) || acc.1.contains (modKey m))))

def outerStep (st : List String × Bool) (sm : Sample K) : List String × Bool :=
  let r := sm.mods.foldl (innerStep st.1) ([], false)
  (st.1 ++ r.1, st.2 || r.2)

theorem shapesysReuse_eq (s : Spec K) :
    shapesysReuse s = ((s.channels.flatMap (·.samples)).foldl outerStep ([], false)).2 := by
  congr 2

theorem inner_flat (seen : List String) (b : Bool) : ∀ (mods : List (Modifier K)) (acc : List String × Bool),
    mods.foldl flatStep (seen ++ acc.1, b || acc.2) =
      (seen ++ (mods.foldl (innerStep seen) acc).1, b || (mods.foldl (innerStep seen) acc).2) := by
  intro mods
  induction mods with
  | nil => intro acc; rfl
  | cons m mods ih =>
    intro acc
    simp only [List.foldl_cons]
    rw [← ih (innerStep seen acc m)]
    simp only [flatStep, innerStep, List.append_assoc, Bool.or_assoc, List.contains_eq_mem, List.mem_append,
      Bool.decide_or]

def allMods (s : Spec K) : List (Modifier K) := (s.channels.flatMap (·.samples)).flatMap (·.mods)

theorem outer_flat (L : List (Sample K)) (st : List String × Bool) :
    L.foldl outerStep st = (L.flatMap (·.mods)).foldl flatStep st := by
  rw [List.foldl_flatMap]
  congr 1
  funext st x
  have := inner_flat st.1 st.2 x.mods ([], false)
  simp only [List.append_nil, Bool.or_false] at this
  exact this.symm

/-- `b` does not repeat the key of `a` as a non-shared modifier (pairwise over the flattened list: no non-shared key repeats an earlier one) -/
def NoClash (a b : Modifier K) : Prop := ¬(b.type.isShared = false ∧ modKey a = modKey b)

theorem flat_snd : ∀ (L : List (Modifier K)) (st : List String × Bool),
    (L.foldl flatStep st).2 = false ↔
      (st.2 = false ∧ L.Pairwise NoClash ∧ ∀ m ∈ L, m.type.isShared = false → modKey m ∉ st.1) := by
  intro L
  induction L with
  | nil => intro st; simp
  | cons m L ih =>
    intro st
    simp only [List.foldl_cons]
    rw [ih, List.pairwise_cons]
    simp only [flatStep, Bool.or_eq_false_iff, Bool.and_eq_false_iff, Bool.not_eq_false', List.contains_eq_mem,
      decide_eq_false_iff_not, List.mem_append, not_or, List.mem_cons, forall_eq_or_imp, NoClash, not_and,
      List.not_mem_nil, or_false]
    constructor
    · rintro ⟨⟨h1, h2⟩, h3, h4⟩
      refine ⟨h1, ⟨?_, h3⟩, ?_, ?_⟩
      · intro b hb hsb heq
        exact (h4 b hb hsb).2 heq.symm
      · intro hs
        rcases h2 with h2 | h2
        · rw [hs] at h2; cases h2
        · exact h2
      · intro b hb hsb
        exact (h4 b hb hsb).1
    · rintro ⟨h1, ⟨h2, h3⟩, h4, h5⟩
      refine ⟨⟨h1, ?_⟩, h3, ?_⟩
      · cases hs : m.type.isShared
        · right; exact h4 hs
        · left; rfl
      · intro b hb hsb
        exact ⟨h5 b hb hsb, fun heq => h2 b hb hsb heq.symm⟩

theorem key_shapesys (t : ModType) (n n' : String) (h : ModType.shapesys.str ++ "/" ++ n = t.str ++ "/" ++ n') :
    t = .shapesys := by
  have h' := congrArg String.toList h
  cases t <;> simp [ModType.str] at h'
  rfl

theorem NoClash.symm {a b : Modifier K} (h : NoClash a b) : NoClash b a := by
  -- only `shapesys` is non-shared and the key carries the type, so a clash seen from either side makes both `shapesys`
  intro ⟨hs, heq⟩
  have ha : a.type = .shapesys := by
    cases ht : a.type <;> rw [ht] at hs <;> first | rfl | cases hs
  have hb : b.type = .shapesys := by
    unfold modKey at heq
    rw [ha] at heq
    exact key_shapesys b.type a.name b.name heq.symm
  exact h ⟨by rw [hb]; rfl, heq.symm⟩

theorem shapesysReuse_false_iff (s : Spec K) : shapesysReuse s = false ↔ (allMods s).Pairwise NoClash := by
  rw [shapesysReuse_eq, outer_flat, flat_snd]
  simp [allMods]

end

end Pyhf.PermInv
