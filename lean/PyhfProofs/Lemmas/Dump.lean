import PyhfModel.PatchSet
import PyhfProofs.Lemmas.Find
import Mathlib.Data.String.Basic
import Mathlib.Data.List.Nodup
import Mathlib.Data.List.Perm.Basic
import Mathlib.Data.List.Sort
/-!
# The key-sorted JSON dump (`json.dumps(obj, sort_keys=True)` as a token stream) identifies a document up to key order

Insensitive: the entries of an object are sorted by key before they are written, and a list with distinct keys has one sorted form.
Sensitive: the stream parses uniquely.  `Sens x` says so for one document `x` with any continuation of the stream behind it; that is the
form in which the statement goes through the induction over the document (an array or object is a sequence of dumps, each followed by
more tokens).
-/
namespace Pyhf.PatchSet

def structural : List String := ["[", "]", "{", "}", ",", ":"]

mutual
  /-- well-formed document: atoms and keys are never structural tokens, keys of each object are distinct -/
  def J.WF : J → Prop
    | .atom s => s ∉ structural
    | .arr xs => WFList xs
    | .obj kvs => WFKVs kvs ∧ (kvs.map Prod.fst).Nodup
  def WFList : List J → Prop
    | [] => True
    | x :: xs => J.WF x ∧ WFList xs
  def WFKVs : List (String × J) → Prop
    | [] => True
    | (k, v) :: rest => k ∉ structural ∧ J.WF v ∧ WFKVs rest
end

mutual
  /-- equality up to the order of object entries, at every level -/
  inductive J.Equiv : J → J → Prop
    | atom (s : String) : J.Equiv (.atom s) (.atom s)
    | arr {xs ys : List J} : EquivList xs ys → J.Equiv (.arr xs) (.arr ys)
    | obj {kvs kvs' kvs'' : List (String × J)} :
        EquivKVs kvs kvs' → kvs'.Perm kvs'' → J.Equiv (.obj kvs) (.obj kvs'')
  /-- same length, pointwise equivalent -/
  inductive EquivList : List J → List J → Prop
    | nil : EquivList [] []
    | cons {x y : J} {xs ys : List J} : J.Equiv x y → EquivList xs ys → EquivList (x :: xs) (y :: ys)
  /-- same length, same keys in the same order, pointwise equivalent values -/
  inductive EquivKVs : List (String × J) → List (String × J) → Prop
    | nil : EquivKVs [] []
    | cons {k : String} {v w : J} {r r' : List (String × J)} :
        J.Equiv v w → EquivKVs r r' → EquivKVs ((k, v) :: r) ((k, w) :: r')
end

theorem J.induct {P : J → Prop} (hatom : ∀ s, P (.atom s))
    (harr : ∀ xs, (∀ x ∈ xs, P x) → P (.arr xs))
    (hobj : ∀ kvs, (∀ p ∈ kvs, P p.2) → P (.obj kvs)) (x : J) : P x :=
  J.rec (motive_1 := P) (motive_2 := fun xs => ∀ x ∈ xs, P x)
    hatom harr hobj (by simp) (fun _ _ hh ht => List.forall_mem_cons.2 ⟨hh, ht⟩)
    (by simp) (fun _ _ hh ht => List.forall_mem_cons.2 ⟨hh, ht⟩) (fun _ _ h => h) x

theorem dumpKVs_eq_map (kvs : List (String × J)) :
    dumpKVs kvs = kvs.map (fun p => (p.1, dump p.2)) := by
  induction kvs with
  | nil => simp [dumpKVs]
  | cons p rest ih => obtain ⟨k, v⟩ := p; simp [dumpKVs, ih]

theorem WFList_iff (xs : List J) : WFList xs ↔ ∀ x ∈ xs, x.WF := by
  induction xs with
  | nil => simp [WFList]
  | cons x xs ih => simp [WFList, ih]

theorem WFKVs_iff (kvs : List (String × J)) :
    WFKVs kvs ↔ ∀ p ∈ kvs, p.1 ∉ structural ∧ p.2.WF := by
  induction kvs with
  | nil => simp [WFKVs]
  | cons p rest ih => obtain ⟨k, v⟩ := p; simp [WFKVs, ih, and_assoc]

/-! ## `sortKVs` is the library's insertion sort by key -/

theorem sortKVs_eq_insertionSort (L : List (String × List String)) :
    sortKVs L = L.insertionSort fun a b => a.1 ≤ b.1 := by
  have hins : ∀ k v (S : List (String × List String)), insertKV k v S = S.orderedInsert (fun a b => a.1 ≤ b.1) (k, v) := by
    intro k v S
    induction S with
    | nil => rfl
    | cons p rest ih => simp only [insertKV, List.orderedInsert_cons, ih]
  induction L with
  | nil => rfl
  | cons p rest ih => rw [List.insertionSort_cons, ← ih, ← hins]; rfl

theorem sortKVs_perm (L : List (String × List String)) : (sortKVs L).Perm L :=
  sortKVs_eq_insertionSort L ▸ List.perm_insertionSort _ L

theorem sortKVs_sorted (L : List (String × List String)) : (sortKVs L).Pairwise (fun a b => a.1 ≤ b.1) :=
  sortKVs_eq_insertionSort L ▸ List.pairwise_insertionSort _ L

theorem sortKVs_eq_of_perm {L L' : List (String × List String)} (hp : L.Perm L')
    (hn : (L.map Prod.fst).Nodup) : sortKVs L = sortKVs L' :=
  ((sortKVs_perm L).trans (hp.trans (sortKVs_perm L').symm)).eq_of_sorted_key (key := Prod.fst)
    (((sortKVs_perm L).map _).nodup_iff.2 hn) (sortKVs_sorted L) (sortKVs_sorted L')

/-! ## Insensitive to key order -/

theorem sortKVs_dumpKVs_perm {kvs kvs' : List (String × J)} (hp : kvs.Perm kvs') (hn : (kvs.map Prod.fst).Nodup) :
    sortKVs (dumpKVs kvs) = sortKVs (dumpKVs kvs') := by
  rw [dumpKVs_eq_map, dumpKVs_eq_map]
  exact sortKVs_eq_of_perm (hp.map _) (by rw [List.map_map]; exact hn)

theorem EquivKVs.keys_eq {kvs kvs' : List (String × J)} (h : EquivKVs kvs kvs') :
    kvs.map Prod.fst = kvs'.map Prod.fst := by
  induction kvs generalizing kvs' with
  | nil => cases h; rfl
  | cons p rest ih =>
    cases h with
    | cons hv hr => simp [ih hr]

theorem dumpList_congr (xs : List J)
    (ih : ∀ x ∈ xs, ∀ y, x.WF → J.Equiv x y → dump x = dump y) (hw : WFList xs)
    (ys : List J) (h : EquivList xs ys) : dumpList xs = dumpList ys := by
  induction xs generalizing ys with
  | nil => cases h; rfl
  | cons x xs ihxs =>
    cases h with
    | cons hxy hr =>
      simp only [dumpList]
      rw [ih x (List.mem_cons_self ..) _ hw.1 hxy,
        ihxs (fun x hx => ih x (List.mem_cons_of_mem _ hx)) hw.2 _ hr]

theorem dumpKVs_congr (kvs : List (String × J))
    (ih : ∀ p ∈ kvs, ∀ y, p.2.WF → J.Equiv p.2 y → dump p.2 = dump y) (hw : WFKVs kvs)
    (kvs' : List (String × J)) (h : EquivKVs kvs kvs') : dumpKVs kvs = dumpKVs kvs' := by
  induction kvs generalizing kvs' with
  | nil => cases h; rfl
  | cons p rest ihr =>
    cases h with
    | cons hv hr =>
      simp only [dumpKVs]
      rw [ih _ (List.mem_cons_self ..) _ hw.2.1 hv,
        ihr (fun x hx => ih x (List.mem_cons_of_mem _ hx)) hw.2.2 _ hr]

theorem dump_key_order_insensitive (x y : J) (hx : x.WF) (h : J.Equiv x y) : dump x = dump y := by
  induction x using J.induct generalizing y with
  | hatom s => cases h; rfl
  | harr xs ih =>
    cases h with
    | arr hl =>
      simp only [dump]
      rw [dumpList_congr xs ih hx _ hl]
  | hobj kvs ih =>
    cases h with
    | @obj _ kvs' kvs'' hkv hp =>
      simp only [dump]
      rw [dumpKVs_congr kvs ih hx.1 _ hkv, sortKVs_dumpKVs_perm hp (hkv.keys_eq ▸ hx.2)]

theorem dump_obj_perm {kvs kvs' : List (String × J)} (hp : kvs.Perm kvs')
    (hn : (kvs.map Prod.fst).Nodup) : dump (.obj kvs) = dump (.obj kvs') := by
  simp only [dump, sortKVs_dumpKVs_perm hp hn]

/-! ## The dump determines the document up to key order -/

theorem dump_head (y : J) (hy : y.WF) :
    ∃ t rest, dump y = t :: rest ∧ t ≠ "]" ∧ t ≠ "}" := by
  cases y with
  | atom s =>
    refine ⟨s, [], by simp [dump], ?_, ?_⟩ <;>
    · rintro rfl; simp [J.WF, structural] at hy
  | arr xs => exact ⟨"[", _, by simp only [dump]; rfl, by decide, by decide⟩
  | obj kvs => exact ⟨"{", _, by simp only [dump]; rfl, by decide, by decide⟩

/-- unique-parsing (prefix) property of the dump of `x` -/
def Sens (x : J) : Prop :=
  ∀ y r r', y.WF → dump x ++ r = dump y ++ r' → J.Equiv x y ∧ r = r'

theorem parseList (xs : List J) (ih : ∀ x ∈ xs, x.WF → Sens x) (hw : WFList xs)
    (ys : List J) (r r' : List String) (hwy : WFList ys)
    (h : dumpList xs ++ "]" :: r = dumpList ys ++ "]" :: r') : EquivList xs ys ∧ r = r' := by
  induction xs generalizing ys with
  | nil =>
    cases ys with
    | nil => simp [dumpList] at h; exact ⟨.nil, h⟩
    | cons y ys =>
      obtain ⟨t, rest, ht, hne, -⟩ := dump_head y hwy.1
      simp [dumpList, ht] at h
      exact absurd h.1.symm hne
  | cons x xs ihxs =>
    cases ys with
    | nil =>
      obtain ⟨t, rest, ht, hne, -⟩ := dump_head x hw.1
      simp [dumpList, ht] at h
      exact absurd h.1 hne
    | cons y ys =>
      simp only [dumpList, List.append_assoc, List.cons_append, List.nil_append] at h
      obtain ⟨hxy, htl⟩ := ih x (List.mem_cons_self ..) hw.1 y _ _ hwy.1 h
      obtain ⟨hr, hrr⟩ := ihxs (fun x hx => ih x (List.mem_cons_of_mem _ hx)) hw.2 ys hwy.2
        (List.cons.inj htl).2
      exact ⟨.cons hxy hr, hrr⟩

theorem parseEntries (S : List (String × List String))
    (hS : ∀ e ∈ S, e.1 ∉ structural ∧ ∃ v : J, v.WF ∧ Sens v ∧ e.2 = dump v)
    (S' : List (String × List String))
    (hS' : ∀ e ∈ S', e.1 ∉ structural ∧ ∃ v : J, v.WF ∧ e.2 = dump v)
    (r r' : List String)
    (h : S.flatMap (fun kv => [kv.1, ":"] ++ kv.2 ++ [","]) ++ "}" :: r
       = S'.flatMap (fun kv => [kv.1, ":"] ++ kv.2 ++ [","]) ++ "}" :: r') :
    S = S' ∧ r = r' := by
  induction S generalizing S' with
  | nil =>
    cases S' with
    | nil => simpa using h
    | cons e' S' =>
      have := (hS' e' (List.mem_cons_self ..)).1
      simp at h
      rw [← h.1] at this
      simp [structural] at this
  | cons e S ihS =>
    cases S' with
    | nil =>
      have := (hS e (List.mem_cons_self ..)).1
      simp at h
      rw [h.1] at this
      simp [structural] at this
    | cons e' S' =>
      obtain ⟨-, v, hv, hsv, hev⟩ := hS e (List.mem_cons_self ..)
      obtain ⟨-, v', hv', hev'⟩ := hS' e' (List.mem_cons_self ..)
      simp only [List.flatMap_cons, List.append_assoc, List.cons_append, List.nil_append,
        List.cons.injEq, true_and] at h
      obtain ⟨hk, h⟩ := h
      rw [hev, hev'] at h
      obtain ⟨heq, htl⟩ := hsv v' _ _ hv' h
      rw [htl] at h
      have hd : dump v = dump v' := List.append_cancel_right h
      obtain ⟨hSS, hrr⟩ := ihS (fun e he => hS e (List.mem_cons_of_mem _ he)) S'
        (fun e he => hS' e (List.mem_cons_of_mem _ he)) (List.cons.inj htl).2
      refine ⟨?_, hrr⟩
      congr 1
      exact Prod.ext hk (by rw [hev, hev', hd])

theorem equivKVs_of_dumpKVs_eq (kvs : List (String × J))
    (ih : ∀ p ∈ kvs, p.2.WF → Sens p.2) (hw : WFKVs kvs)
    (kvs' : List (String × J)) (hw' : WFKVs kvs') (h : dumpKVs kvs = dumpKVs kvs') :
    EquivKVs kvs kvs' := by
  induction kvs generalizing kvs' with
  | nil =>
    cases kvs' with
    | nil => exact .nil
    | cons p r => obtain ⟨k, v⟩ := p; simp [dumpKVs] at h
  | cons p rest ihr =>
    obtain ⟨k, v⟩ := p
    cases kvs' with
    | nil => simp [dumpKVs] at h
    | cons p' rest' =>
      obtain ⟨k', v'⟩ := p'
      simp only [dumpKVs, List.cons.injEq, Prod.mk.injEq] at h
      obtain ⟨⟨rfl, hd⟩, hrest⟩ := h
      have hvv : J.Equiv v v' :=
        (ih (k, v) (List.mem_cons_self ..) hw.2.1 v' [] [] hw'.2.1 (by rw [hd])).1
      exact .cons hvv (ihr (fun x hx => ih x (List.mem_cons_of_mem _ hx)) hw.2.2 _ hw'.2.2 hrest)

theorem mem_sortKVs_dumpKVs {kvs : List (String × J)} {e : String × List String} (he : e ∈ sortKVs (dumpKVs kvs)) :
    ∃ p ∈ kvs, (p.1, dump p.2) = e := by
  rw [(sortKVs_perm _).mem_iff, dumpKVs_eq_map] at he
  exact List.mem_map.mp he

theorem sens_all (x : J) : x.WF → Sens x := by
  induction x using J.induct with
  | hatom s =>
    intro hx y r r' hy h
    cases y with
    | atom s' =>
      simp only [dump, List.cons_append, List.nil_append, List.cons.injEq] at h
      obtain ⟨rfl, hr⟩ := h
      exact ⟨.atom _, hr⟩
    | arr ys =>
      simp [dump] at h
      rw [h.1] at hx; simp [J.WF, structural] at hx
    | obj kvs =>
      simp [dump] at h
      rw [h.1] at hx; simp [J.WF, structural] at hx
  | harr xs ih =>
    intro hx y r r' hy h
    cases y with
    | atom s' =>
      simp [dump] at h
      rw [← h.1] at hy; simp [J.WF, structural] at hy
    | arr ys =>
      simp only [dump, List.append_assoc, List.cons_append, List.nil_append, List.cons.injEq,
        true_and] at h
      obtain ⟨hl, hr⟩ := parseList xs ih hx ys r r' hy h
      exact ⟨.arr hl, hr⟩
    | obj kvs => simp [dump] at h
  | hobj kvs ih =>
    intro hx y r r' hy h
    cases y with
    | atom s' =>
      simp [dump] at h
      rw [← h.1] at hy; simp [J.WF, structural] at hy
    | arr ys => simp [dump] at h
    | obj kvs' =>
      simp only [dump, List.append_assoc, List.cons_append, List.nil_append, List.cons.injEq,
        true_and] at h
      have hwk := (WFKVs_iff kvs).mp hx.1
      have hwk' := (WFKVs_iff kvs').mp hy.1
      obtain ⟨hSS, hr⟩ := parseEntries (sortKVs (dumpKVs kvs))
        (fun e he => by
          obtain ⟨p, hp, rfl⟩ := mem_sortKVs_dumpKVs he
          exact ⟨(hwk p hp).1, p.2, (hwk p hp).2, ih p hp (hwk p hp).2, rfl⟩)
        (sortKVs (dumpKVs kvs'))
        (fun e he => by
          obtain ⟨p, hp, rfl⟩ := mem_sortKVs_dumpKVs he
          exact ⟨(hwk' p hp).1, p.2, (hwk' p hp).2, rfl⟩)
        r r' h
      -- the entry lists are permutations of each other: list the entries of `kvs'` in the order in which `kvs` dumps them
      have hperm : (dumpKVs kvs).Perm (dumpKVs kvs') := (sortKVs_perm _).symm.trans (hSS ▸ sortKVs_perm _)
      rw [dumpKVs_eq_map kvs'] at hperm
      obtain ⟨kvs'', hm'', hp''⟩ := (congrFun₂ (List.eq_map_comp_perm _) _ _).mpr hperm
      have hw'' : WFKVs kvs'' := (WFKVs_iff kvs'').mpr fun p hp => hwk' p (hp''.mem_iff.mp hp)
      exact ⟨.obj (equivKVs_of_dumpKVs_eq kvs ih hx.1 kvs'' hw'' (by rw [hm'', dumpKVs_eq_map])) hp'', hr⟩

theorem dump_sensitive (x y : J) (hx : x.WF) (hy : y.WF) (h : dump x = dump y) : J.Equiv x y :=
  (sens_all x hx y [] [] hy (by rw [h])).1

theorem dump_prefix_free (x y : J) (hx : x.WF) (hy : y.WF) (r r' : List String)
    (h : dump x ++ r = dump y ++ r') : J.Equiv x y ∧ r = r' :=
  sens_all x hx y r r' hy h

theorem dump_eq_iff_equiv (x y : J) (hx : x.WF) (hy : y.WF) : dump x = dump y ↔ J.Equiv x y :=
  ⟨dump_sensitive x y hx hy, dump_key_order_insensitive x y hx⟩

theorem J.Equiv.refl (x : J) : J.Equiv x x := by
  induction x using J.induct with
  | hatom s => exact .atom s
  | harr xs ih =>
    refine .arr ?_
    induction xs with
    | nil => exact .nil
    | cons x xs ihx =>
      exact .cons (ih x (List.mem_cons_self ..)) (ihx fun y hy => ih y (List.mem_cons_of_mem _ hy))
  | hobj kvs ih =>
    refine .obj (kvs' := kvs) ?_ (List.Perm.refl _)
    induction kvs with
    | nil => exact .nil
    | cons p r ihr =>
      obtain ⟨k, v⟩ := p
      exact .cons (ih (k, v) (List.mem_cons_self ..))
        (ihr fun y hy => ih y (List.mem_cons_of_mem _ hy))

example : dump (.obj [("b", .atom "1"), ("a", .arr [.atom "2", .atom "3"])])
    = ["{", "a", ":", "[", "2", ",", "3", ",", "]", ",", "b", ":", "1", ",", "}"] := by decide

example : (J.obj [("b", .atom "1"), ("a", .arr [.atom "2", .atom "3"])]).WF := by
  simp [J.WF, WFKVs, WFList, structural]

/-- without distinct keys the statement is false: the hypothesis `WF` is needed -/
example : dump (.obj [("a", .atom "1"), ("a", .atom "2")]) ≠ dump (.obj [("a", .atom "2"), ("a", .atom "1")]) := by
  decide

end Pyhf.PatchSet
