import PyhfProofs.Lemmas.Build
import PyhfProofs.Lemmas.RealPrim
import Mathlib.Algebra.BigOperators.Group.List.Basic
import Mathlib.Data.List.GetD
import Mathlib.Data.Real.Basic
/-!
# Theorem R (tensor path = declarative formula), algebraic half, over ℝ

The per-bin formula `totalP` of `EngineA` runs over *all* samples and modifiers of the configuration, each behind its mask; the
declarative `D.binRate` runs over the samples present in the channel and the modifiers they declare.  A masked entry contributes the
neutral element, so sums and products over all names collapse to the declared ones (`sum_map_eq_filterMap`, `prod_map_eq_filterMap`),
and the access field of a bin-wise modifier reads the component `D` reads by name (`selRead_eq`, under the ∀-forms of the
unchecked conditions `binwiseOK`, `singularCovers`, `singleLumi`).
-/
set_option linter.unusedSectionVars false
namespace Pyhf

theorem sumK_real (l : List ℝ) : sumK l = l.sum := List.sum_eq_foldl.symm
theorem prodK_real (l : List ℝ) : prodK l = l.prod := List.prod_eq_foldl.symm

theorem sum_map_eq_filterMap {α : Type} (l : List α) (f : α → ℝ) (g : α → Option ℝ)
    (h : ∀ a ∈ l, f a = (g a).getD 0) : (l.map f).sum = (l.filterMap g).sum := by
  induction l with
  | nil => rfl
  | cons a l ih =>
    rw [List.forall_mem_cons] at h
    cases hg : g a <;> simp [hg, h.1, ih h.2]

theorem prod_map_eq_filterMap {α : Type} (l : List α) (f : α → ℝ) (g : α → Option ℝ)
    (h : ∀ a ∈ l, f a = (g a).getD 1) : (l.map f).prod = (l.filterMap g).prod := by
  induction l with
  | nil => rfl
  | cons a l ih =>
    rw [List.forall_mem_cons] at h
    cases hg : g a <;> simp [hg, h.1, ih h.2]

theorem prod_flatMap_congr {α : Type} (l : List α) (F G : α → List ℝ)
    (h : ∀ a ∈ l, (F a).prod = (G a).prod) : (l.flatMap F).prod = (l.flatMap G).prod := by
  simp only [List.flatMap_def, List.prod_flatten, List.map_map]
  exact congrArg List.prod (List.map_congr_left h)

/-! ## facts about `selection` -/

theorem selection_getD (sl : List (String × Nat × Nat)) (n : String) (k : Nat)
    (hk : k < (sliceOf sl n).2 - (sliceOf sl n).1) :
    (selection sl n).getD k 0 = (sliceOf sl n).1 + k := by
  unfold selection
  rw [List.getD_eq_getElem?_getD, List.getElem?_map, List.getElem?_range hk]
  exact Nat.add_comm _ _

theorem selection_length (sl : List (String × Nat × Nat)) (n : String) :
    (selection sl n).length = (sliceOf sl n).2 - (sliceOf sl n).1 := by
  unfold selection; simp

theorem selRead_eq (sl : List (String × Nat × Nat)) (n : String) (k : Nat)
    (hk : k < (sliceOf sl n).2 - (sliceOf sl n).1) :
    selRead (selection sl n) k = (sliceOf sl n).1 + k := by
  rw [← selection_getD sl n k hk]
  unfold selRead
  split
  · next h1 =>
    have : k = 0 := by rw [beq_iff_eq, selection_length] at h1; omega
    subst this
    cases selection sl n <;> rfl
  · rfl

/-! ## what the unchecked conditions `binwiseOK`, `singularCovers`, `singleLumi` say, and what they give for the
access field: bin `b` reads component `b` (shapefactor) resp. `offset + b` (shapesys, staterror) of the parameter
set the modifier is named after -/
section
variable {K : Type} [Add K] [Sub K] [Mul K] [Div K] [Neg K] [OfNat K 0] [OfNat K 1]
  [OfScientific K] [LT K] [LE K] [DecidableLT K] [DecidableLE K] [BEq K]
variable (m : Model K)

theorem shapefactor_le_size (h : binwiseOK m = true) {n c sm : String}
    (hmem : (n, ModType.shapefactor) ∈ m.cfg.modifiers) (hc : c ∈ m.cfg.channels) (hsm : sm ∈ m.cfg.samples)
    (hd : declOn m n .shapefactor sm c = true) :
    m.cfg.nbOf c ≤ (sliceOf m.slices n).2 - (sliceOf m.slices n).1 := by
  have h := List.all_eq_true.mp h _ hmem
  simp only [List.all_eq_true] at h
  simpa [hd] using h c hc sm hsm

theorem compCounts_sum (h : binwiseOK m = true) {n : String} {t : ModType} (ht : t = .shapesys ∨ t = .staterror)
    (hmem : (n, t) ∈ m.cfg.modifiers) :
    (compCounts m n t).sum = (sliceOf m.slices n).2 - (sliceOf m.slices n).1 := by
  have h := List.all_eq_true.mp h _ hmem
  rw [List.sum_eq_foldl]
  rcases ht with rfl | rfl <;> simpa using h

theorem singular_declOn (h : singularCovers m = true) {n : String} {t : ModType} (ht : t = .shapesys ∨ t = .staterror)
    (hmem : (n, t) ∈ m.cfg.modifiers) {c sm : String} (hc : c ∈ m.cfg.channels) (hsm : sm ∈ m.cfg.samples)
    (hd : declOn m n t sm c = true) :
    declOn m n t ((singularSample m.spec m.cfg n t).getD "") c = true := by
  have h := List.all_eq_true.mp h _ hmem
  rcases ht with rfl | rfl <;> simp only [List.all_eq_true] at h <;> simpa [hd] using h c hc sm hsm

theorem singleLumi_unique (h : singleLumi m = true) {n : String} (hn : n ∈ modsOf m.cfg .lumi) :
    modsOf m.cfg .lumi = [n] ∧ (sliceOf m.slices n).2 - (sliceOf m.slices n).1 = 1 := by
  simp only [singleLumi, Bool.and_eq_true, decide_eq_true_eq, List.all_eq_true, beq_iff_eq] at h
  obtain ⟨hlen, hsz⟩ := h
  refine ⟨?_, hsz n hn⟩
  generalize modsOf m.cfg .lumi = l at hlen hn
  match l, hlen, hn with
  | [a], _, hn => rw [List.mem_singleton.mp hn]

/-- a bin-wise constrained modifier declared in channel `ch` is declared there by its singular sample, and the
channel's block of components lies inside the modifier's parameter slice -/
theorem binwise_in_slice (hbw : binwiseOK m = true) (hcov : singularCovers m = true) {n : String} {t : ModType}
    (ht : t = .shapesys ∨ t = .staterror) (hmem : (n, t) ∈ m.cfg.modifiers) {ch : Chan} (hch : ch ∈ m.chans)
    {sm : String} (hsm : sm ∈ m.cfg.samples) (hd : declOn m n t sm ch.1 = true) :
    declOn m n t ((singularSample m.spec m.cfg n t).getD "") ch.1 = true ∧
    offAt (compCounts m n t) ch.2 + m.cfg.nbOf ch.1 ≤ (sliceOf m.slices n).2 - (sliceOf m.slices n).1 := by
  have hi : m.cfg.channels[ch.2]? = some ch.1 := List.mem_zipIdx_iff_getElem?.mp hch
  obtain ⟨hil, hci⟩ := List.getElem?_eq_some_iff.mp hi
  have hsing := singular_declOn m hcov ht hmem (List.mem_of_getElem? hi) hsm hd
  have hil' : ch.2 < (compCounts m n t).length := by simpa [compCounts] using hil
  have hcc : (compCounts m n t)[ch.2] = m.cfg.nbOf ch.1 := by simp [compCounts, hci, hsing]
  have h1 := List.sum_take_succ (compCounts m n t) ch.2 hil'
  have h2 := List.sum_take_add_sum_drop (compCounts m n t) (ch.2 + 1)
  rw [offAt_eq, ← compCounts_sum m hbw ht hmem]
  exact ⟨hsing, by omega⟩

theorem accessP_binwise (hbw : binwiseOK m = true) (hcov : singularCovers m = true) {n : String} {t : ModType}
    (ht : t = .shapesys ∨ t = .staterror) (hmem : (n, t) ∈ m.cfg.modifiers) {ch : Chan} (hch : ch ∈ m.chans)
    {sm : String} (hsm : sm ∈ m.cfg.samples) (hd : declOn m n t sm ch.1 = true) {b : Nat} (hb : b < m.cfg.nbOf ch.1) :
    accessP m n t ch b = (sliceOf m.slices n).1 + (offAt (compCounts m n t) ch.2 + b) := by
  obtain ⟨hsing, hle⟩ := binwise_in_slice m hbw hcov ht hmem hch hsm hd
  rw [← selRead_eq _ _ _ (by omega)]
  rcases ht with rfl | rfl <;> simp only [accessP, hsing, if_true]

theorem accessP_shapefactor (hbw : binwiseOK m = true) {n : String}
    (hmem : (n, ModType.shapefactor) ∈ m.cfg.modifiers) {ch : Chan} (hch : ch ∈ m.chans)
    {sm : String} (hsm : sm ∈ m.cfg.samples) (hd : declOn m n .shapefactor sm ch.1 = true) {b : Nat}
    (hb : b < m.cfg.nbOf ch.1) :
    accessP m n .shapefactor ch b = (sliceOf m.slices n).1 + b := by
  have hlt := lt_of_lt_of_le hb (shapefactor_le_size m hbw hmem (List.fst_mem_of_mem_zipIdx hch) hsm hd)
  simp only [accessP, selection_length, hlt, if_true, selection_getD _ _ _ hlt]

/-! ## the pointwise leaves on a present and on an absent sample -/

theorem present_len (hs : Shape m) (ch : Chan) (hch : ch ∈ m.chans) (sm : String) (hsm : sm ∈ m.cfg.samples) (x : Sample K)
    (hf : findSample m.spec ch.1 sm = some x) : x.data.length = m.cfg.nbOf ch.1 := by
  have := hs.nom_len ch.1 (List.fst_mem_of_mem_zipIdx hch) sm hsm
  unfold nomBlk at this; rw [hf] at this; exact this

theorem nomP_present (ch : Chan) (sm : String) (x : Sample K) (hf : findSample m.spec ch.1 sm = some x) (b : Nat) :
    nomP m sm ch b = x.data.getD b 0 := by
  unfold nomP nomBlk; rw [hf]

theorem maskP_present (hs : Shape m) (ch : Chan) (hch : ch ∈ m.chans) (sm : String) (hsm : sm ∈ m.cfg.samples) (x : Sample K)
    (hf : findSample m.spec ch.1 sm = some x) (b : Nat) (hb : b < m.cfg.nbOf ch.1) (n : String) (t : ModType) :
    maskP m n t sm ch b = (findMod x n t).isSome := by
  unfold maskP maskBlk; rw [hf]
  exact List.getD_replicate _ (by rw [present_len m hs ch hch sm hsm x hf]; exact hb)

theorem varP_histo_present (ch : Chan) (sm : String) (x : Sample K) (hf : findSample m.spec ch.1 sm = some x)
    (b : Nat) (n : String) (md : Modifier K) (hm : findMod x n .histosys = some md) (hi : Bool) :
    varP m n .histosys sm hi ch b = (if hi then md.hi else md.lo).getD b 0 := by
  unfold varP varBlk; rw [hf]; simp [hm]

theorem varP_norm_present (hs : Shape m) (ch : Chan) (hch : ch ∈ m.chans) (sm : String) (hsm : sm ∈ m.cfg.samples) (x : Sample K)
    (hf : findSample m.spec ch.1 sm = some x) (b : Nat) (hb : b < m.cfg.nbOf ch.1)
    (n : String) (md : Modifier K) (hm : findMod x n .normsys = some md) (hi : Bool) :
    varP m n .normsys sm hi ch b = (if hi then md.hi else md.lo).headD 1 := by
  unfold varP varBlk; rw [hf]; simp only [hm]
  exact List.getD_replicate _ (by rw [present_len m hs ch hch sm hsm x hf]; exact hb)

theorem maskP_absent (ch : Chan) (sm : String) (hf : findSample m.spec ch.1 sm = none)
    (b : Nat) (hb : b < m.cfg.nbOf ch.1) (n : String) (t : ModType) : maskP m n t sm ch b = false := by
  unfold maskP maskBlk; rw [hf]
  exact List.getD_replicate _ hb

theorem nomP_absent (ch : Chan) (sm : String) (hf : findSample m.spec ch.1 sm = none)
    (b : Nat) (hb : b < m.cfg.nbOf ch.1) : nomP m sm ch b = 0 := by
  unfold nomP nomBlk; rw [hf]
  exact List.getD_replicate _ hb

theorem clip1_zero (h : clipSampleNonPos m = true) : clip1 m.settings.clipSample (0 : K) = 0 := by
  unfold clipSampleNonPos at h
  cases hc : m.settings.clipSample with
  | none => rfl
  | some c =>
    rw [hc] at h
    simp only [Bool.not_eq_true', decide_eq_false_iff_not] at h
    exact if_neg h

end

theorem sampleP_absent (m : Model ℝ) (hclip : clipSampleNonPos m = true) (par : Nat → ℝ) (ch : Chan) (sm : String)
    (hf : findSample m.spec ch.1 sm = none) (b : Nat) (hb : b < m.cfg.nbOf ch.1) :
    sampleP realPrim m par sm ch b = 0 := by
  have hmask : ∀ n t, maskP m n t sm ch b = false := fun n t => maskP_absent m ch sm hf b hb n t
  have hnp : nomPlusP m par sm ch b = 0 := by
    unfold nomPlusP
    rw [← List.sum_eq_foldl, List.sum_append]
    have : ((modsOf m.cfg .histosys).map fun n => deltaP m par n sm ch b) = (modsOf m.cfg .histosys).map fun _ => (0 : ℝ) := by
      apply List.map_congr_left; intro n _; simp [deltaP, hmask]
    rw [this, nomP_absent m ch sm hf b hb]; simp
  unfold sampleP
  rw [← List.prod_eq_foldl, List.prod_append, hnp]
  simp [clip1_zero m hclip]

/-- the hypotheses of the C01/C02 theorems beyond what construction checks (all decidable) -/
structure Extra (m : Model ℝ) : Prop where
  binwise : binwiseOK m = true
  lumi : singleLumi m = true
  covers : singularCovers m = true
  clip : clipSampleNonPos m = true

section
variable (m : Model ℝ) (hs : Shape m) (he : Extra m) (par : Nat → ℝ)
include hs he

/-! ## present samples: masked products and sums reduce to the declared modifiers -/

theorem value_eq_factor (ch : Chan) (hch : ch ∈ m.chans) (sm : String) (hsm : sm ∈ m.cfg.samples) (x : Sample ℝ)
    (hf : findSample m.spec ch.1 sm = some x) (b : Nat) (hb : b < m.cfg.nbOf ch.1)
    (t : ModType) (ht : t ∈ factorTypes) (n : String) (hn : n ∈ modsOf m.cfg t) (md : Modifier ℝ)
    (hm : findMod x n t = some md) :
    valueP realPrim m par n t sm ch b = D.factor realPrim m par md ch b := by
  obtain ⟨_, hname, htype⟩ := PermInv.findMod_some x n t md hm
  have hmem := (mem_modsOf _ _ _).mp hn
  have hdecl : declOn m n t sm ch.1 = true := by simp [declOn, hf, hm]
  cases t with
  | histosys => simp [factorTypes] at ht
  | lumi =>
    obtain ⟨hone, hsz⟩ := singleLumi_unique m he.lumi hn
    simp [valueP, D.factor, htype, byName, hname, lumiTot, hone, selection, hsz, sumK_real]
  | normfactor => simp [valueP, D.factor, htype, byName, hname]
  | normsys =>
    simp only [valueP, D.factor, htype, byName, hname, Nat.add_zero]
    rw [varP_norm_present m hs ch hch sm hsm x hf b hb n md hm false,
        varP_norm_present m hs ch hch sm hsm x hf b hb n md hm true]
    simp
  | shapefactor =>
    simp only [valueP, D.factor, htype, byName, hname, accessP_shapefactor m he.binwise hmem hch hsm hdecl hb]
  | shapesys =>
    simp only [valueP, D.factor, htype, byName, hname,
      accessP_binwise m he.binwise he.covers (.inl rfl) hmem hch hsm hdecl hb]
  | staterror =>
    simp only [valueP, D.factor, htype, byName, hname,
      accessP_binwise m he.binwise he.covers (.inr rfl) hmem hch hsm hdecl hb]

theorem sampleP_present (ch : Chan) (hch : ch ∈ m.chans) (sm : String) (hsm : sm ∈ m.cfg.samples) (x : Sample ℝ)
    (hf : findSample m.spec ch.1 sm = some x) (b : Nat) (hb : b < m.cfg.nbOf ch.1) :
    sampleP realPrim m par sm ch b = clip1 m.settings.clipSample (D.sampleRate realPrim m par x ch b) := by
  have hmask : ∀ n t, maskP m n t sm ch b = (findMod x n t).isSome :=
    fun n t => maskP_present m hs ch hch sm hsm x hf b hb n t
  have hnom := nomP_present m ch sm x hf b
  have hsum : ((modsOf m.cfg .histosys).map fun n => deltaP m par n sm ch b).sum
      = ((modsOf m.cfg .histosys).filterMap fun n => (findMod x n .histosys).map fun md =>
          D.shift m par md (x.data.getD b 0) b).sum := by
    apply sum_map_eq_filterMap
    intro n _
    unfold deltaP
    rw [hmask]
    cases hm : findMod x n .histosys with
    | none => simp
    | some md =>
      obtain ⟨_, hname, _⟩ := PermInv.findMod_some x n _ md hm
      simp only [Option.isSome_some, if_true, Option.map_some, Option.getD_some, D.shift, byName, hname, Nat.add_zero]
      rw [varP_histo_present m ch sm x hf b n md hm false, varP_histo_present m ch sm x hf b n md hm true, hnom]
      simp
  have hprod : (factorTypes.flatMap fun t => (modsOf m.cfg t).map fun n => factorP realPrim m par n t sm ch b).prod
      = (factorTypes.flatMap fun t => (modsOf m.cfg t).filterMap fun n =>
          (findMod x n t).map fun md => D.factor realPrim m par md ch b).prod := by
    apply prod_flatMap_congr
    intro t ht
    apply prod_map_eq_filterMap
    intro n hn
    unfold factorP
    rw [hmask]
    cases hm : findMod x n t with
    | none => simp
    | some md =>
      exact value_eq_factor m hs he par ch hch sm hsm x hf b hb t ht n hn md hm
  unfold sampleP nomPlusP D.sampleRate
  simp only []
  rw [← List.prod_eq_foldl, List.prod_append, ← List.sum_eq_foldl, List.sum_append, hsum, hprod, hnom, prodK_real, sumK_real]
  simp

theorem totalP_eq_binRate (ch : Chan) (hch : ch ∈ m.chans) (b : Nat) (hb : b < m.cfg.nbOf ch.1) :
    totalP realPrim m par ch b = D.binRate realPrim m par ch b := by
  unfold totalP D.binRate
  rw [← List.sum_eq_foldl, sumK_real]
  congr 1
  apply sum_map_eq_filterMap
  intro sm hsm
  cases hf : findSample m.spec ch.1 sm with
  | none => simpa using sampleP_absent m he.clip par ch sm hf b hb
  | some x => simpa using sampleP_present m hs he par ch hch sm hsm x hf b hb

/-- **Theorem R.** tensor model = declarative model -/
theorem expectedActual_eq_D : expectedActual realPrim m par = D.expected realPrim m par := by
  rw [expectedActual_pw realPrim m hs par]
  apply List.flatMap_congr
  intro ch hch
  exact List.map_congr_left fun b hb => totalP_eq_binRate m hs he par ch hch b (by simpa [Model.nb] using List.mem_range.mp hb)

end
end Pyhf
