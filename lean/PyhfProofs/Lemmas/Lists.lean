import PyhfModel.Tensor
import Mathlib.Data.List.Basic
import Mathlib.Data.List.Range
import Mathlib.Tactic.Linarith
/-! List lemmas under the tensor engine: running slices (`mkSlices.go`, `Config.channelSlices.go`), `scatterFrom` and
`zipWith` over concatenated blocks, `zipIdx` against `idxOf`, a sum over a filter. -/
namespace Pyhf

/-! ### running slices tile an initial segment -/

theorem mkSlices_go_names (sizes : List (String × Nat)) (start : Nat) :
    (mkSlices.go sizes start).map (·.1) = sizes.map (·.1) := by
  induction sizes generalizing start with
  | nil => rfl
  | cons x xs ih => obtain ⟨nm, k⟩ := x; simp [mkSlices.go, ih]

theorem mkSlices_go_tile (sizes : List (String × Nat)) (start : Nat) :
    (mkSlices.go sizes start).flatMap (fun x => List.range' x.2.1 (x.2.2 - x.2.1)) =
      List.range' start ((sizes.map (·.2)).sum) := by
  induction sizes generalizing start with
  | nil => simp [mkSlices.go]
  | cons x xs ih =>
    obtain ⟨nm, k⟩ := x
    simp only [mkSlices.go, List.flatMap_cons, List.map_cons, List.sum_cons, ih]
    have : start + k - start = k := by omega
    rw [this, List.range'_append_1]

theorem mkSlices_go_sizes (sizes : List (String × Nat)) (start : Nat) :
    (mkSlices.go sizes start).map (fun x => x.2.2 - x.2.1) = sizes.map (·.2) := by
  induction sizes generalizing start with
  | nil => rfl
  | cons x xs ih =>
    simp only [mkSlices.go, List.map_cons, ih]
    congr 1; omega

theorem mkSlices_go_find (n : String) (sizes : List (String × Nat)) (start : Nat) :
    ((mkSlices.go sizes start).find? (·.1 == n)).map (fun e => e.2.2 - e.2.1) =
      (sizes.find? (·.1 == n)).map (·.2) := by
  induction sizes generalizing start with
  | nil => rfl
  | cons x xs ih =>
    obtain ⟨nm, k⟩ := x
    rw [mkSlices.go, List.find?_cons, List.find?_cons]
    cases nm == n
    · exact ih _
    · exact congrArg some (Nat.add_sub_cancel_left ..)

theorem mkSlices_go_ordered (sizes : List (String × Nat)) (start : Nat) :
    (mkSlices.go sizes start).Pairwise (fun e e' => e.2.2 ≤ e'.2.1) ∧
      ∀ e ∈ mkSlices.go sizes start, start ≤ e.2.1 := by
  induction sizes generalizing start with
  | nil => exact ⟨List.Pairwise.nil, fun e he => by cases he⟩
  | cons x xs ih =>
    obtain ⟨nm, k⟩ := x
    obtain ⟨i1, i2⟩ := ih (start + k)
    refine ⟨List.pairwise_cons.mpr ⟨fun e he => i2 e he, i1⟩, ?_⟩
    intro e he
    rcases List.mem_cons.mp he with rfl | he
    · exact Nat.le_refl _
    · exact Nat.le_trans (Nat.le_add_right _ _) (i2 e he)

/-- `Config.channelSlices` and `mkSlices` run the same loop: the slice lemmas above serve both -/
theorem channelSlices_go_eq : Config.channelSlices.go = mkSlices.go := by
  funext nb start
  induction nb generalizing start with
  | nil => rfl
  | cons x xs ih => obtain ⟨c, n⟩ := x; simp only [Config.channelSlices.go, mkSlices.go, ih]

theorem zipWith_flatMap {α β γ ι : Type} (f : α → β → γ) (xs : List ι) (g : ι → List α) (h : ι → List β)
    (hl : ∀ x ∈ xs, (g x).length = (h x).length) :
    List.zipWith f (xs.flatMap g) (xs.flatMap h) = xs.flatMap (fun x => List.zipWith f (g x) (h x)) := by
  induction xs with
  | nil => simp
  | cons x xs ih =>
    simp only [List.flatMap_cons]
    rw [List.zipWith_append (hl x (by simp)), ih (fun y hy => hl y (by simp [hy]))]

theorem scatterFrom_length (sel : List Nat) (mask : List Bool) (k : Nat) :
    (scatterFrom sel mask k).length = mask.length := by
  induction mask generalizing k with
  | nil => rfl
  | cons b bs ih => cases b <;> simp [scatterFrom, ih]

theorem scatterFrom_append (sel : List Nat) (m1 m2 : List Bool) (k : Nat) :
    scatterFrom sel (m1 ++ m2) k = scatterFrom sel m1 k ++ scatterFrom sel m2 (k + m1.count true) := by
  induction m1 generalizing k with
  | nil => simp [scatterFrom]
  | cons b bs ih =>
    cases b
    · simp [scatterFrom, ih]
    · simp only [List.cons_append, scatterFrom, ih, List.count_cons_self, List.cons.injEq, true_and]
      have : k + 1 + List.count true bs = k + (List.count true bs + 1) := by omega
      rw [this]

theorem scatterFrom_false (sel : List Nat) (n k : Nat) :
    scatterFrom sel (List.replicate n false) k = List.replicate n 0 := by
  induction n with
  | zero => rfl
  | succ n ih => simp [List.replicate_succ, scatterFrom, ih]

theorem scatterFrom_replicate_true (sel : List Nat) (n k : Nat) :
    scatterFrom sel (List.replicate n true) k
      = (List.range n).map (fun b => if sel.length == 1 then sel.headD 0 else sel.getD (k + b) 0) := by
  induction n generalizing k with
  | zero => rfl
  | succ n ih =>
    simp only [List.replicate_succ, scatterFrom, ih, List.range_succ_eq_map, List.map_cons, List.map_map,
      Nat.add_zero]
    congr 1
    apply List.map_congr_left
    intro b _
    simp only [Function.comp, Nat.add_assoc, Nat.add_comm 1 b]

theorem scatterFrom_true (sel : List Nat) (h1 : sel.length ≠ 1) (n k : Nat) :
    scatterFrom sel (List.replicate n true) k = (List.range n).map (fun b => sel.getD (k + b) 0) := by
  simp [scatterFrom_replicate_true, h1]

theorem map_zipIdx_fst {α β : Type} (l : List α) (k : Nat) (f : α → β) :
    (l.zipIdx k).map (fun x => f x.1) = l.map f :=
  (List.map_map (g := f) (f := Prod.fst)).symm.trans (congrArg (List.map f) (List.zipIdx_map_fst k l))

theorem flatMap_zipIdx_fst {α β : Type} (l : List α) (k : Nat) (f : α → List β) :
    (l.zipIdx k).flatMap (fun x => f x.1) = l.flatMap f := by
  rw [List.flatMap_def, map_zipIdx_fst, ← List.flatMap_def]

theorem zipIdx_of_nodup (l : List String) (hn : l.Nodup) : l.zipIdx = l.map (fun c => (c, l.idxOf c)) := by
  apply List.ext_getElem
  · simp
  · intro k h1 h2
    simp only [List.getElem_zipIdx, List.getElem_map, Nat.zero_add]
    rw [List.Nodup.idxOf_getElem hn]

theorem mem_zipIdx_idxOf (l : List String) (c : String) (hc : c ∈ l) : (c, l.idxOf c) ∈ l.zipIdx := by
  rw [List.mem_zipIdx_iff_getElem?]
  have h := List.idxOf_lt_length_iff.mpr hc
  rw [List.getElem?_eq_getElem h, List.getElem_idxOf h]

theorem sum_map_filter_of_zero {ι M : Type} [AddMonoid M] (p : ι → Bool) (f : ι → M) (l : List ι)
    (hz : ∀ a ∈ l, p a = false → f a = 0) : (l.map f).sum = ((l.filter p).map f).sum := by
  induction l with
  | nil => rfl
  | cons a l ih =>
    have ih' := ih (fun a' ha' => hz a' (by simp [ha']))
    cases hp : p a
    · simp [hp, hz a (by simp) hp, ih']
    · simp [hp, ih']

theorem foldl_inv {α β : Type} (f : β → α → β) (Inv : List α → β → Prop)
    (hstep : ∀ pre a b, Inv pre b → Inv (pre ++ [a]) (f b a)) :
    ∀ (l : List α) (pre : List α) (init : β), Inv pre init → Inv (pre ++ l) (l.foldl f init) := by
  intro l
  induction l with
  | nil => intro pre init h0; simpa using h0
  | cons a l ih =>
    intro pre init h0
    have := ih (pre ++ [a]) (f init a) (hstep pre a init h0)
    simpa using this

end Pyhf
