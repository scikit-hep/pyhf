import PyhfProofs.Lemmas.EngineAD
import PyhfProofs.Lemmas.Cells
/-!
# Combination of workspaces with disjoint channels — per-channel locality of the declarative model

Property (C16): *combining two workspaces with disjoint channels yields a workspace whose main likelihood is the product
of the two main likelihoods with parameters identified by name.*  `CombineAdd` has the additivity statements and the
theorems about `buildModel`; this file has the per-channel part, generic in the number type `K` (only list structure is
used).

`Part q s s₁` : `s₁` is the sub-workspace of `s` on the channel names selected by `q` (the left or the right operand of a
combination with disjoint channel names, or a pruned workspace); `PartModel q m m₁` : models on both, each with the
`mkConfig` of its own specification, same settings; nothing is assumed about `parameters`, parameter sets or slices.
For a channel `c` of the part the rate of a bin is the same in both models as soon as the parameter components read by
the modifiers *declared in `c`* agree (`binRate_local_gen`): lookups in `c` are the part's lookups, and although the sums
over `cfg.samples` / `modsOf cfg t` of the two models range over different lists, a `filterMap` over a strictly sorted
list only sees the entries where the function is defined (`filterMap_strict`).  A bin-wise constrained modifier reads
component `offset + b`; the two offsets agree when the modifier is not declared outside the part (`offAt_part`).
`binRate_local` asks for agreement by name only on the components `j < psize` (and needs `InSlice m₁` for it): agreement
for *all* `j` (reads past the end of a slice) is in general unsatisfiable by a genuine `par₁`, because consecutive slices
sit at different relative positions in the two models.
-/
set_option linter.unusedSectionVars false
namespace Pyhf.Combine
open Pyhf.PermInv

theorem filter_filter_of_imp {α : Type} (p q : α → Bool) (l : List α) (h : ∀ a ∈ l, p a = true → q a = true) :
    (l.filter q).filter p = l.filter p := by
  rw [List.filter_filter]
  refine List.filter_congr fun a ha => ?_
  cases hp : p a
  · rfl
  · rw [h a ha hp]; rfl

theorem strict_nodup {l : List String} (h : l.Pairwise (· < ·)) : l.Nodup := h.imp (fun h => ne_of_lt h)

theorem filter_strict {l l' : List String} (h : l.Pairwise (· < ·)) (h' : l'.Pairwise (· < ·))
    (p : String → Bool) (hp : ∀ a, p a = true → a ∈ l ∧ a ∈ l') : l.filter p = l'.filter p := by
  refine (h.filter p).eq_of_mem_iff (h'.filter p) fun a => ?_
  simp only [List.mem_filter]
  exact ⟨fun ⟨_, ha⟩ => ⟨(hp a ha).2, ha⟩, fun ⟨_, ha⟩ => ⟨(hp a ha).1, ha⟩⟩

theorem filterMap_strict {β : Type} {l l' : List String} (h : l.Pairwise (· < ·)) (h' : l'.Pairwise (· < ·))
    (g : String → Option β) (hg : ∀ a, (g a).isSome = true → a ∈ l ∧ a ∈ l') : l.filterMap g = l'.filterMap g := by
  have e : ∀ l : List String, l.filterMap g = (l.filter fun a => (g a).isSome).filterMap g := fun l => by
    rw [List.filterMap_filter]
    exact List.filterMap_congr fun a _ => by cases g a <;> rfl
  rw [e l, e l', filter_strict h h' _ hg]

theorem take_filter_of_getElem? {l : List String} (hn : l.Nodup) (q : String → Bool) (c : String) (i i₁ : Nat)
    (hi : l[i]? = some c) (hi₁ : (l.filter q)[i₁]? = some c) :
    (l.take i).filter q = (l.filter q).take i₁ := by
  have hqc : q c = true := by
    have := List.mem_of_getElem? hi₁
    exact (List.mem_filter.mp this).2
  have hsplit : l.filter q = (l.take i).filter q ++ (l.drop i).filter q := by
    rw [← List.filter_append, List.take_append_drop]
  have hdrop : l.drop i = c :: l.drop (i + 1) := by
    obtain ⟨hlt, hc⟩ := List.getElem?_eq_some_iff.mp hi
    rw [List.drop_eq_getElem_cons hlt, hc]
  have hsplit' : l.filter q = (l.take i).filter q ++ c :: (l.drop (i + 1)).filter q := by
    rw [hsplit, hdrop, List.filter_cons, if_pos hqc]
  have hnf : (l.filter q).Nodup := hn.filter q
  have hk : ((l.take i).filter q).length = i₁ := by
    have h1 : (l.filter q)[((l.take i).filter q).length]? = some c := by
      rw [hsplit']; simp
    obtain ⟨ha, hb⟩ := List.getElem?_eq_some_iff.mp h1
    obtain ⟨hc, hd⟩ := List.getElem?_eq_some_iff.mp hi₁
    exact (List.Nodup.getElem_inj_iff hnf).mp (hb.trans hd.symm)
  rw [← hk, hsplit']
  simp

/-! ## sub-workspaces -/
section
variable {K : Type} [Add K] [Sub K] [Mul K] [Div K] [Neg K] [OfNat K 0] [OfNat K 1]
  [OfScientific K] [LT K] [LE K] [DecidableLT K] [DecidableLE K] [BEq K]

def Part (q : String → Bool) (s s₁ : Spec K) : Prop :=
  s₁.channels = s.channels.filter (fun ch => q ch.name)

variable {q : String → Bool} {s s₁ : Spec K}

theorem findSample_part (h : Part q s s₁) (c : String) (hc : q c = true) (sm : String) :
    findSample s₁ c sm = findSample s c sm := by
  unfold findSample
  rw [h, filter_filter_of_imp]
  intro a _ ha
  have : a.name = c := by simpa using ha
  rw [this]; exact hc

theorem findSample_part_none (h : Part q s s₁) (c : String) (hc : q c = false) (sm : String) :
    findSample s₁ c sm = none := by
  apply findSample_none_of
  intro ch hch hname
  rw [h] at hch
  have := (List.mem_filter.mp hch).2
  rw [hname, hc] at this; cases this

theorem part_channels (h : Part q s s₁) :
    (mkConfig s₁).channels = (mkConfig s).channels.filter q := by
  refine List.Pairwise.eq_of_mem_iff (canon_strictly_sorted _) ((canon_strictly_sorted _).filter q) fun a => ?_
  rw [List.mem_filter, mem_cfg_channels, mem_cfg_channels, h]
  simp only [List.mem_filter]
  constructor
  · rintro ⟨ch, ⟨h1, h2⟩, rfl⟩; exact ⟨⟨ch, h1, rfl⟩, h2⟩
  · rintro ⟨⟨ch, h1, rfl⟩, h2⟩; exact ⟨ch, ⟨h1, h2⟩, rfl⟩

theorem part_mem_channels (h : Part q s s₁) (ch : Channel K) (hch : ch ∈ s₁.channels) : ch ∈ s.channels := by
  rw [h] at hch; exact (List.mem_filter.mp hch).1

theorem part_samples_sub (h : Part q s s₁) (sm : String) (hsm : sm ∈ (mkConfig s₁).samples) :
    sm ∈ (mkConfig s).samples := by
  rw [mem_cfg_samples] at hsm ⊢
  obtain ⟨ch, hch, x, hx, rfl⟩ := hsm
  exact ⟨ch, part_mem_channels h ch hch, x, hx, rfl⟩

theorem part_modifiers_sub (h : Part q s s₁) (n : String) (t : ModType) (hm : (n, t) ∈ (mkConfig s₁).modifiers) :
    (n, t) ∈ (mkConfig s).modifiers := by
  rw [mem_cfg_modifiers] at hm ⊢
  obtain ⟨ch, hch, rest⟩ := hm
  exact ⟨ch, part_mem_channels h ch hch, rest⟩

theorem findSample_mem_samples (s : Spec K) (c sm : String) (x : Sample K) (hf : findSample s c sm = some x) :
    sm ∈ (mkConfig s).samples := by
  obtain ⟨ch, hch, _, hx, rfl⟩ := findSample_some s c sm x hf
  exact (mem_cfg_samples s _).mpr ⟨ch, hch, x, hx, rfl⟩

theorem findMod_mem_modifiers (s : Spec K) (c sm : String) (x : Sample K) (hf : findSample s c sm = some x)
    (n : String) (t : ModType) (hm : (findMod x n t).isSome = true) : (n, t) ∈ (mkConfig s).modifiers := by
  obtain ⟨ch, hch, _, hx, _⟩ := findSample_some s c sm x hf
  obtain ⟨md, hmd⟩ := Option.isSome_iff_exists.mp hm
  obtain ⟨h1, h2, h3⟩ := findMod_some x n t md hmd
  exact (mem_cfg_modifiers s n t).mpr ⟨ch, hch, x, hx, md, h1, h2, h3⟩

theorem part_nbOf (h : Part q s s₁) (c : String) (hc : q c = true) : (mkConfig s₁).nbOf c = (mkConfig s).nbOf c := by
  rw [mkConfig_nbOf, mkConfig_nbOf, h]
  unfold lastSome
  rw [filter_filter_of_imp]
  intro a _ ha
  rw [beq_iff_eq.mp ha]; exact hc

/-! ## the modifier names of one type are strictly increasing -/

theorem ofStr?_some (str : String) (t : ModType) (h : ModType.ofStr? str = some t) : t.str = str := by
  have := List.find?_some h
  simpa using this

theorem modifiers_pairwise (s : Spec K) :
    (mkConfig s).modifiers.Pairwise (fun a b => a.2 = b.2 → a.1 < b.1) := by
  have hs := canonPairs_sorted (s.channels.flatMap fun c => c.samples.flatMap fun sm =>
                sm.mods.map fun m => (m.name, m.type.str))
  have hn := canonPairs_nodup (s.channels.flatMap fun c => c.samples.flatMap fun sm =>
                sm.mods.map fun m => (m.name, m.type.str))
  refine List.Pairwise.filterMap _ ?_ (hs.and hn)
  rintro ⟨n, ts⟩ ⟨n', ts'⟩ ⟨hle, hne⟩ b hb b' hb' hty
  simp only [Option.map_eq_some_iff] at hb hb'
  obtain ⟨ty, h1, rfl⟩ := hb
  obtain ⟨ty', h1', rfl⟩ := hb'
  simp only at hty ⊢
  have e1 := ofStr?_some _ _ h1
  have e2 := ofStr?_some _ _ h1'
  rw [pairLe_iff] at hle
  rcases hle with hlt | ⟨heq, _⟩
  · exact hlt
  · simp only at heq
    exfalso; apply hne
    rw [← e1, ← e2, hty, heq]

theorem modsOf_strict (s : Spec K) (t : ModType) : (modsOf (mkConfig s) t).Pairwise (· < ·) := by
  unfold modsOf
  rw [List.pairwise_map]
  refine List.Pairwise.imp_of_mem ?_ ((modifiers_pairwise s).filter _)
  intro a b ha hb hR
  have h1 : a.2 = t := by simpa using (List.mem_filter.mp ha).2
  have h2 : b.2 = t := by simpa using (List.mem_filter.mp hb).2
  exact hR (h1.trans h2.symm)

/-! ## locality of the declarative rate -/

/-- `m₁` is a model of the sub-workspace of `m.spec` selected by `q`, with the same settings; both carry the channel
summary of their own specification (as every model returned by `buildModel` does).  Nothing is assumed about the
parameter sets and slices of the two models. -/
structure PartModel (q : String → Bool) (m m₁ : Model K) : Prop where
  part : Part q m.spec m₁.spec
  cfg : m.cfg = mkConfig m.spec
  cfg₁ : m₁.cfg = mkConfig m₁.spec
  settings : m₁.settings = m.settings

variable {q : String → Bool} {m m₁ : Model K}

theorem PartModel.find (h : PartModel q m m₁) (c : String) (hc : q c = true) (sm : String) :
    findSample m₁.spec c sm = findSample m.spec c sm := findSample_part h.part c hc sm

theorem PartModel.nbOf (h : PartModel q m m₁) (c : String) (hc : q c = true) : m₁.cfg.nbOf c = m.cfg.nbOf c := by
  rw [h.cfg, h.cfg₁]; exact part_nbOf h.part c hc

theorem PartModel.channels (h : PartModel q m m₁) : m₁.cfg.channels = m.cfg.channels.filter q := by
  rw [h.cfg, h.cfg₁]; exact part_channels h.part

/-- the component of the parameter set named `n` that a modifier of type `t` reads in bin `b` of the channel at
position `i` (`D.factor`, `D.shift`) -/
def compIdx (m : Model K) (n : String) (t : ModType) (i b : Nat) : Nat :=
  match t with
  | .shapefactor => b
  | .shapesys | .staterror => offAt (compCounts m n t) i + b
  | _ => 0

theorem factor_local (P : Prim K) (hs : m₁.settings = m.settings) (par par₁ : Nat → K) (md : Modifier K)
    (c : String) (i i₁ b : Nat)
    (h : byName m par md.name (compIdx m md.name md.type i b) = byName m₁ par₁ md.name (compIdx m₁ md.name md.type i₁ b)) :
    D.factor P m par md (c, i) b = D.factor P m₁ par₁ md (c, i₁) b := by
  unfold D.factor
  unfold compIdx at h
  rw [hs]
  generalize md.type = t at h ⊢
  cases t <;> simp only [] at h ⊢ <;> rw [h]

theorem sampleRate_local (P : Prim K) (h : PartModel q m m₁) (par par₁ : Nat → K) (c : String) (hc : q c = true)
    (sm : String) (x : Sample K) (hf : findSample m.spec c sm = some x) (i i₁ b : Nat)
    (hread : ∀ n t md, findMod x n t = some md →
      byName m par n (compIdx m n t i b) = byName m₁ par₁ n (compIdx m₁ n t i₁ b)) :
    D.sampleRate P m par x (c, i) b = D.sampleRate P m₁ par₁ x (c, i₁) b := by
  have hf₁ : findSample m₁.spec c sm = some x := by rw [h.find c hc sm]; exact hf
  have hmem : ∀ n t, (findMod x n t).isSome = true → n ∈ modsOf m.cfg t ∧ n ∈ modsOf m₁.cfg t := by
    intro n t hs
    rw [mem_modsOf, mem_modsOf, h.cfg, h.cfg₁]
    exact ⟨findMod_mem_modifiers _ c sm x hf n t hs, findMod_mem_modifiers _ c sm x hf₁ n t hs⟩
  -- both models list the declared modifiers of `x`, in the same (sorted) order
  have key : ∀ (t : ModType) (f f₁ : Modifier K → K), (∀ n md, findMod x n t = some md → f md = f₁ md) →
      (modsOf m.cfg t).filterMap (fun n => (findMod x n t).map f) =
        (modsOf m₁.cfg t).filterMap (fun n => (findMod x n t).map f₁) := by
    intro t f f₁ hff
    rw [funext fun n => Option.map_congr (f := f) (g := f₁) fun md hm => hff n md hm]
    exact filterMap_strict (by rw [h.cfg]; exact modsOf_strict _ t) (by rw [h.cfg₁]; exact modsOf_strict _ t) _
      fun n hs => hmem n t (by simpa using hs)
  unfold D.sampleRate
  simp only []
  rw [key .histosys _ (fun md => D.shift m₁ par₁ md (x.data.getD b 0) b) (fun n md hm => by
      have e := hread n _ md hm
      simp only [D.shift, (findMod_some x n _ md hm).2.1, h.settings]
      exact congrArg _ e),
    List.flatMap_congr (fun t _ => key t _ (fun md => D.factor P m₁ par₁ md (c, i₁) b) (fun n md hm => by
      obtain ⟨_, hname, htype⟩ := findMod_some x n t md hm
      exact factor_local P h.settings par par₁ md c i i₁ b (by rw [hname, htype]; exact hread n t md hm)))]

/-- one bin's rate, general form: the hypothesis is on the parameter components read by the modifiers declared
in the channel -/
theorem binRate_local_gen (P : Prim K) (h : PartModel q m m₁) (par par₁ : Nat → K) (c : String) (hc : q c = true)
    (i i₁ b : Nat)
    (hread : ∀ sm x, findSample m.spec c sm = some x → ∀ n t md, findMod x n t = some md →
      byName m par n (compIdx m n t i b) = byName m₁ par₁ n (compIdx m₁ n t i₁ b)) :
    D.binRate P m par (c, i) b = D.binRate P m₁ par₁ (c, i₁) b := by
  have e : (fun sm => (findSample m₁.spec c sm).map fun x =>
        clip1 m.settings.clipSample (D.sampleRate P m₁ par₁ x (c, i₁) b)) =
      fun sm => (findSample m.spec c sm).map fun x => clip1 m.settings.clipSample (D.sampleRate P m par x (c, i) b) :=
    funext fun sm => by
      rw [h.find c hc sm]
      exact Option.map_congr fun x hf => by
        rw [sampleRate_local P h par par₁ c hc sm x hf i i₁ b (hread sm x hf)]
  unfold D.binRate
  rw [h.settings, e]
  refine congrArg (fun l => clip1 _ (sumK l)) (filterMap_strict (by rw [h.cfg]; exact canon_strictly_sorted _)
    (by rw [h.cfg₁]; exact canon_strictly_sorted _) _ ?_)
  intro sm hsome
  rw [Option.isSome_map] at hsome
  obtain ⟨x, hx⟩ := Option.isSome_iff_exists.mp hsome
  rw [h.cfg, h.cfg₁]
  exact ⟨findSample_mem_samples _ c sm x hx, findSample_mem_samples _ c sm x (by rw [h.find c hc sm]; exact hx)⟩

/-! ## the running offset of a bin-wise constrained modifier -/
variable {q : String → Bool} {m m₁ : Model K}

def NotOutside (q : String → Bool) (m : Model K) (n : String) (t : ModType) : Prop :=
  ∀ c sm, q c = false → declOn m n t sm c = false

theorem maskBlk_outside (n : String) (t : ModType) (sm c : String) (hd : declOn m n t sm c = false) :
    (maskBlk m.spec m.cfg n t sm c).any id = false := by
  unfold declOn at hd
  unfold maskBlk
  cases hf : findSample m.spec c sm with
  | none => simp
  | some x => rw [hf] at hd; simp only [] at hd; simp [hd]

theorem hasMask_part (h : PartModel q m m₁) (n : String) (t : ModType) (hout : NotOutside q m n t) (sm : String) :
    (maskTab m₁.spec m₁.cfg n t sm).any id = (maskTab m.spec m.cfg n t sm).any id := by
  unfold maskTab blocks
  rw [List.any_flatMap, List.any_flatMap, h.channels, List.any_filter]
  apply List.any_congr rfl
  intro c
  cases hc : q c with
  | true => simp [maskBlk, h.find c hc sm, h.nbOf c hc]
  | false => simp only [Bool.false_and]; exact (maskBlk_outside n t sm c (hout c sm hc)).symm

theorem singularSample_part (h : PartModel q m m₁) (n : String) (t : ModType) (hout : NotOutside q m n t) :
    singularSample m₁.spec m₁.cfg n t = singularSample m.spec m.cfg n t := by
  unfold singularSample
  rw [funext (hasMask_part h n t hout)]
  refine congrArg List.getLast? (filter_strict (by rw [h.cfg₁]; exact canon_strictly_sorted _)
    (by rw [h.cfg]; exact canon_strictly_sorted _) _ ?_)
  intro sm hp
  have hp₁ := hp
  rw [← hasMask_part h n t hout sm] at hp₁
  obtain ⟨c, _, x, hx, _⟩ := (Overrides.maskTab_any_iff _ _ n t sm).mp hp
  obtain ⟨c₁, _, x₁, hx₁, _⟩ := (Overrides.maskTab_any_iff _ _ n t sm).mp hp₁
  rw [h.cfg, h.cfg₁]
  exact ⟨findSample_mem_samples _ c₁ sm x₁ hx₁, findSample_mem_samples _ c sm x hx⟩

theorem offAt_part (h : PartModel q m m₁) (n : String) (t : ModType) (hout : NotOutside q m n t)
    (c : String) (i i₁ : Nat) (hi : (c, i) ∈ m.chans) (hi₁ : (c, i₁) ∈ m₁.chans) :
    offAt (compCounts m n t) i = offAt (compCounts m₁ n t) i₁ := by
  have hg : m.cfg.channels[i]? = some c := List.mem_zipIdx_iff_getElem?.mp hi
  have hg₁ : (m.cfg.channels.filter q)[i₁]? = some c := by
    rw [← h.channels]; exact List.mem_zipIdx_iff_getElem?.mp hi₁
  have hnd : m.cfg.channels.Nodup := by rw [h.cfg]; exact canon_nodup _
  rw [offAt_eq, offAt_eq]
  unfold compCounts
  rw [singularSample_part h n t hout, h.channels, ← List.map_take, ← List.map_take,
    ← take_filter_of_getElem? hnd q c i i₁ hg hg₁]
  rw [sum_map_filter_of_zero q _ (m.cfg.channels.take i)]
  · refine congrArg List.sum (List.map_congr_left fun c' hc' => ?_)
    have hq : q c' = true := (List.mem_filter.mp hc').2
    unfold declOn
    rw [h.find c' hq, h.nbOf c' hq]
  · intro c' _ hq
    rw [hout c' _ hq]; rfl

/-! ## per-channel locality, parameters identified by name -/
variable {q : String → Bool} {m m₁ : Model K}

/-- number of components of the parameter set named `n` -/
def psize (m : Model K) (n : String) : Nat := (sliceOf m.slices n).2 - (sliceOf m.slices n).1

/-- every parameter read of the declarative model stays inside the slice of the parameter set it names:
scalar modifiers have a non-empty parameter set, and the two unchecked bin-wise conditions of the C01 theorems -/
structure InSlice (m : Model K) : Prop where
  scalar : ∀ n t, (n, t) ∈ m.cfg.modifiers →
    (t = .histosys ∨ t = .lumi ∨ t = .normfactor ∨ t = .normsys) → 0 < psize m n
  binwise : binwiseOK m = true
  covers : singularCovers m = true

theorem compIdx_lt (hs : InSlice m) (n : String) (t : ModType) (hmem : (n, t) ∈ m.cfg.modifiers)
    (c : String) (i : Nat) (hi : (c, i) ∈ m.chans) (sm : String) (hsm : sm ∈ m.cfg.samples)
    (hdecl : declOn m n t sm c = true) (b : Nat) (hb : b < m.cfg.nbOf c) : compIdx m n t i b < psize m n := by
  have hc : c ∈ m.cfg.channels := List.mem_of_getElem? (List.mem_zipIdx_iff_getElem?.mp hi)
  cases t with
  | shapefactor => exact Nat.lt_of_lt_of_le hb (shapefactor_le_size m hs.binwise hmem hc hsm hdecl)
  | shapesys =>
    exact Nat.lt_of_lt_of_le (Nat.add_lt_add_left hb _)
      (binwise_in_slice m hs.binwise hs.covers (Or.inl rfl) hmem hi hsm hdecl).2
  | staterror =>
    exact Nat.lt_of_lt_of_le (Nat.add_lt_add_left hb _)
      (binwise_in_slice m hs.binwise hs.covers (Or.inr rfl) hmem hi hsm hdecl).2
  | _ => exact hs.scalar n _ hmem (by simp)

theorem compIdx_part (h : PartModel q m m₁) (n : String) (t : ModType)
    (hout : (t = .shapesys ∨ t = .staterror) → NotOutside q m n t)
    (c : String) (i i₁ : Nat) (hi : (c, i) ∈ m.chans) (hi₁ : (c, i₁) ∈ m₁.chans) (b : Nat) :
    compIdx m n t i b = compIdx m₁ n t i₁ b := by
  cases t with
  | shapesys => exact congrArg (· + b) (offAt_part h n _ (hout (Or.inl rfl)) c i i₁ hi hi₁)
  | staterror => exact congrArg (· + b) (offAt_part h n _ (hout (Or.inr rfl)) c i i₁ hi hi₁)
  | _ => rfl

theorem PartModel.declared (h : PartModel q m m₁) {c : String} (hc : q c = true) {sm : String} {x : Sample K}
    (hf : findSample m.spec c sm = some x) {n : String} {t : ModType} {md : Modifier K} (hm : findMod x n t = some md) :
    (n, t) ∈ m₁.cfg.modifiers ∧ sm ∈ m₁.cfg.samples ∧ declOn m₁ n t sm c = true := by
  have hf₁ : findSample m₁.spec c sm = some x := by rw [h.find c hc sm]; exact hf
  refine ⟨?_, ?_, ?_⟩
  · rw [h.cfg₁]; exact findMod_mem_modifiers _ c sm x hf₁ n t (by simp [hm])
  · rw [h.cfg₁]; exact findSample_mem_samples _ c sm x hf₁
  · unfold declOn; rw [hf₁]; simp [hm]

/-- **per-channel locality, general case** (bin-wise constrained names may be shared with channels outside the part):
the hypothesis on the bin-wise constrained parameters is stated on the components actually read, i.e. with each
model's own running offset; the other parameter sets are identified by name, component by component.

`m₁` is a model of the sub-workspace of `m.spec` selected by `q`; `c` is one of its channels, at position `i` in
`m` and `i₁` in `m₁`. -/
theorem binRate_local_offsets (P : Prim K) (h : PartModel q m m₁) (hs : InSlice m₁) (par par₁ : Nat → K)
    (c : String) (hc : q c = true) (i i₁ : Nat) (hi₁ : (c, i₁) ∈ m₁.chans)
    (b : Nat) (hb : b < m₁.cfg.nbOf c)
    (hpar : ∀ n t, (n, t) ∈ m₁.cfg.modifiers → t ≠ .shapesys → t ≠ .staterror →
      ∀ j, j < psize m₁ n → byName m par n j = byName m₁ par₁ n j)
    (hbw : ∀ n t, (t = .shapesys ∨ t = .staterror) → (n, t) ∈ m₁.cfg.modifiers →
      byName m par n (offAt (compCounts m n t) i + b) = byName m₁ par₁ n (offAt (compCounts m₁ n t) i₁ + b)) :
    D.binRate P m par (c, i) b = D.binRate P m₁ par₁ (c, i₁) b := by
  apply binRate_local_gen P h par par₁ c hc i i₁ b
  intro sm x hf n t md hm
  obtain ⟨hmem, hsm, hdecl⟩ := h.declared hc hf hm
  cases t with
  | shapesys => exact hbw n _ (Or.inl rfl) hmem
  | staterror => exact hbw n _ (Or.inr rfl) hmem
  | _ => exact hpar n _ hmem (by decide) (by decide) _ (compIdx_lt hs n _ hmem c i₁ hi₁ sm hsm hdecl b hb)

/-- **per-channel locality**, parameters identified by name, component by component; no bin-wise constrained modifier
(shapesys / staterror) of `m₁` may also be declared in a channel of `m` outside the part (for that case:
`binRate_local_offsets`) -/
theorem binRate_local (P : Prim K) (h : PartModel q m m₁) (hs : InSlice m₁) (par par₁ : Nat → K)
    (c : String) (hc : q c = true) (i i₁ : Nat) (hi : (c, i) ∈ m.chans) (hi₁ : (c, i₁) ∈ m₁.chans)
    (b : Nat) (hb : b < m₁.cfg.nbOf c)
    (hout : ∀ n t, (t = .shapesys ∨ t = .staterror) → (n, t) ∈ m₁.cfg.modifiers → NotOutside q m n t)
    (hpar : ∀ n t, (n, t) ∈ m₁.cfg.modifiers → ∀ j, j < psize m₁ n → byName m par n j = byName m₁ par₁ n j) :
    D.binRate P m par (c, i) b = D.binRate P m₁ par₁ (c, i₁) b := by
  apply binRate_local_gen P h par par₁ c hc i i₁ b
  intro sm x hf n t md hm
  obtain ⟨hmem, hsm, hdecl⟩ := h.declared hc hf hm
  rw [compIdx_part h n t (fun ht => hout n t ht hmem) c i i₁ hi hi₁ b]
  exact hpar n t hmem _ (compIdx_lt hs n t hmem c i₁ hi₁ sm hsm hdecl b hb)

/-- the same with the accessors agreeing on *all* components (no condition on `m₁` and on `b`) -/
theorem binRate_local_all (P : Prim K) (h : PartModel q m m₁) (par par₁ : Nat → K)
    (c : String) (hc : q c = true) (i i₁ : Nat) (hi : (c, i) ∈ m.chans) (hi₁ : (c, i₁) ∈ m₁.chans) (b : Nat)
    (hout : ∀ n t, (t = .shapesys ∨ t = .staterror) → (n, t) ∈ m₁.cfg.modifiers → NotOutside q m n t)
    (hpar : ∀ n t, (n, t) ∈ m₁.cfg.modifiers → ∀ j, byName m par n j = byName m₁ par₁ n j) :
    D.binRate P m par (c, i) b = D.binRate P m₁ par₁ (c, i₁) b := by
  apply binRate_local_gen P h par par₁ c hc i i₁ b
  intro sm x hf n t md hm
  have hmem := (h.declared hc hf hm).1
  rw [compIdx_part h n t (fun ht => hout n t ht hmem) c i i₁ hi hi₁ b]
  exact hpar n t hmem _

end

end Pyhf.Combine
