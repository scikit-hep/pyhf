import PyhfModel.Params
import PyhfProofs.Lemmas.Except
import Mathlib.Tactic.Conv
/-!
# The staterror width computation (`staterror_builder.finalize`), for every number type

`staterrorSigmas_eq` is `staterror_builder.finalize` as one equation (`relErr` = its `relerr` vector);
`staterrorSigmas_ok` / `staterrorSigmas_error` say what an accepting / a refusing run means.
-/
set_option linter.unusedSectionVars false
namespace Pyhf
namespace Overrides

section
variable {K : Type} [Add K] [Sub K] [Mul K] [Div K] [Neg K] [OfNat K 0] [OfNat K 1]
  [OfScientific K] [LT K] [DecidableLT K] [BEq K]

/-- the samples declaring the staterror modifier `n`: their mask over the mega-channel has a `true` -/
def declaring (s : Spec K) (cfg : Config) (n : String) : List String :=
  cfg.samples.filter fun sm => (maskTab s cfg n .staterror sm).any id

theorem true_mem_maskBlk (s : Spec K) (cfg : Config) (n : String) (t : ModType) (sm c : String) :
    true ∈ maskBlk s cfg n t sm c ↔
      ∃ x, findSample s c sm = some x ∧ (findMod x n t).isSome = true ∧ x.data ≠ [] := by
  unfold maskBlk
  cases findSample s c sm with
  | none => simp only [List.mem_replicate, Bool.true_eq_false, and_false, reduceCtorEq, false_and, exists_false]
  | some x =>
    simp only [List.mem_replicate, ne_eq, List.length_eq_zero_iff, eq_comm (a := true), Option.some.injEq, and_comm,
      exists_eq_left']

theorem maskTab_any_iff (s : Spec K) (cfg : Config) (n : String) (t : ModType) (sm : String) :
    (maskTab s cfg n t sm).any id = true ↔
      ∃ c ∈ cfg.channels, ∃ x, findSample s c sm = some x ∧ (findMod x n t).isSome = true ∧ x.data ≠ [] := by
  simp only [maskTab, blocks, List.any_eq_true, id, exists_eq_right, List.mem_flatMap, true_mem_maskBlk]

/-- `relerr` of `staterror_builder.finalize` over the whole mega-channel, before the mask is applied -/
def relErr (P : Prim K) (s : Spec K) (cfg : Config) (n : String) : List K :=
  let nomsall := (declaring s cfg n).foldl (fun acc sm => vecAdd acc (nomTab s cfg sm)) (List.replicate cfg.nmain 0)
  (cfg.samples.foldl (fun acc sm =>
      vecAdd acc (List.zipWith (fun u t => if (0 : K) < t then (u / t) * (u / t) else 0)
        (uncrtTab s cfg n .staterror sm) nomsall)) (List.replicate cfg.nmain 0)).map P.sqrt

theorem staterrorSigmas_eq (P : Prim K) (s : Spec K) (cfg : Config) (n : String) :
    staterrorSigmas P s cfg n =
      match declaring s cfg n with
      | [] => .error .pyIndexError
      | sm0 :: rest =>
        if rest.any (fun sm => maskTab s cfg n .staterror sm != maskTab s cfg n .staterror sm0) then
          .error .invalidModifier
        else
          let w := maskSelect (maskTab s cfg n .staterror sm0) (relErr P s cfg n)
          .ok (w.map fun x => if x == 0 then 1 else x, w.map (· == 0)) := by
  have hpart : ((cfg.samples.zip (cfg.samples.map fun sm => maskTab s cfg n .staterror sm)).filter
      fun (x : String × List Bool) => x.2.any id) =
      (declaring s cfg n).map fun sm => (sm, maskTab s cfg n .staterror sm) := by
    rw [← List.map_prod_left_eq_zip, List.filter_map]; rfl
  unfold staterrorSigmas relErr
  simp only [hpart]
  cases declaring s cfg n with
  | nil => rfl
  | cons sm0 rest =>
    simp only [List.map_cons, List.any_map, List.foldl_cons, List.foldl_map, ← List.map_prod_left_eq_zip, List.map_map]
    rfl

/-- an accepting `finalize` reads the widths through the mask of any declaring sample (they all agree) -/
theorem staterrorSigmas_ok {P : Prim K} {s : Spec K} {cfg : Config} {n : String} {sig : List K} {fx : List Bool}
    (h : staterrorSigmas P s cfg n = .ok (sig, fx)) {sm : String} (hsm : sm ∈ declaring s cfg n) :
    sig = (maskSelect (maskTab s cfg n .staterror sm) (relErr P s cfg n)).map (fun x => if x == 0 then 1 else x) ∧
    fx = (maskSelect (maskTab s cfg n .staterror sm) (relErr P s cfg n)).map (· == 0) := by
  rw [staterrorSigmas_eq] at h
  cases hd : declaring s cfg n with
  | nil => rw [hd] at hsm; cases hsm
  | cons sm0 rest =>
    rw [hd] at h hsm
    obtain ⟨hany, h⟩ := ite_error_eq_ok h
    cases h
    have hm : maskTab s cfg n .staterror sm = maskTab s cfg n .staterror sm0 := by
      rcases List.mem_cons.mp hsm with rfl | hsm
      · rfl
      · simpa using mt (fun hne => List.any_eq_true.mpr ⟨sm, hsm, hne⟩) hany
    rw [hm]
    exact ⟨rfl, rfl⟩

theorem staterrorSigmas_error (P : Prim K) (s : Spec K) (cfg : Config) (n : String) (e : Err)
    (h : staterrorSigmas P s cfg n = .error e) :
    (declaring s cfg n = [] ∧ e = .pyIndexError) ∨ e = .invalidModifier := by
  rw [staterrorSigmas_eq] at h
  cases hp : declaring s cfg n with
  | nil => rw [hp] at h; cases h; exact .inl ⟨rfl, rfl⟩
  | cons sm0 rest =>
    rw [hp] at h
    rcases ite_error_eq_error h with ⟨_, rfl⟩ | ⟨_, h⟩
    · exact .inr rfl
    · cases h

theorem maskSelect_map {α β : Type} (f : α → β) (mask : List Bool) (xs : List α) :
    maskSelect mask (xs.map f) = (maskSelect mask xs).map f := by
  simp [maskSelect, List.zip_map_right, List.filter_map, Function.comp_def]

theorem maskSelect_length {α : Type} (mask : List Bool) (xs : List α) (h : mask.length = xs.length) :
    (maskSelect mask xs).length = mask.count true := by
  rw [maskSelect, List.length_map, ← List.countP_eq_length_filter]
  conv_rhs => rw [← List.map_fst_zip (l₂ := xs) (Nat.le_of_eq h)]
  rw [List.count, List.countP_map]
  exact List.countP_congr fun x _ => by simp

theorem foldl_vecAdd_length {α : Type} (g : α → List K) (N : Nat) (l : List α) (init : List K)
    (h0 : init.length = N) (hg : ∀ a ∈ l, (g a).length = N) :
    (l.foldl (fun acc a => vecAdd acc (g a)) init).length = N := by
  induction l generalizing init with
  | nil => exact h0
  | cons a l ih =>
    refine ih (vecAdd init (g a)) ?_ fun b hb => hg b (List.mem_cons_of_mem _ hb)
    rw [vecAdd, List.length_zipWith, h0, hg a List.mem_cons_self, Nat.min_self]

theorem relErr_length (P : Prim K) (s : Spec K) (cfg : Config) (n : String)
    (hlen : ∀ sm ∈ cfg.samples, (nomTab s cfg sm).length = cfg.nmain ∧
      (uncrtTab s cfg n .staterror sm).length = cfg.nmain) : (relErr P s cfg n).length = cfg.nmain := by
  rw [relErr, List.length_map]
  refine foldl_vecAdd_length _ _ _ _ (by simp) fun sm hsm => ?_
  have := foldl_vecAdd_length (nomTab s cfg) cfg.nmain (declaring s cfg n) (List.replicate cfg.nmain 0)
    List.length_replicate
    fun sm' h' => (hlen sm' (List.mem_filter.mp h').1).1
  rw [List.length_zipWith, (hlen sm hsm).2, this, Nat.min_self]

theorem staterrorSigmas_length (P : Prim K) (s : Spec K) (cfg : Config) (n : String) (sig : List K) (fx : List Bool)
    (h : staterrorSigmas P s cfg n = .ok (sig, fx))
    (hrel : (relErr P s cfg n).length = cfg.nmain)
    (hmask : ∀ sm ∈ cfg.samples, (maskTab s cfg n .staterror sm).length = cfg.nmain) :
    ∀ sm ∈ declaring s cfg n, sig.length = (maskTab s cfg n .staterror sm).count true := by
  intro sm hsm
  rw [(staterrorSigmas_ok h hsm).1, List.length_map,
    maskSelect_length _ _ (by rw [hmask sm (List.mem_filter.mp hsm).1, hrel])]

theorem maskSelect_getD {α : Type} (d : α) : ∀ (mask : List Bool) (xs : List α) (k : Nat),
    k < xs.length → mask.getD k false = true →
    (maskSelect mask xs).getD ((mask.take k).count true) d = xs.getD k d := by
  intro mask
  induction mask with
  | nil => intro xs k _ hm; simp at hm
  | cons b mask ih =>
    intro xs k hk hm
    cases xs with
    | nil => simp at hk
    | cons x xs =>
      cases k with
      | zero =>
        cases b with
        | false => cases hm
        | true => rfl
      | succ k =>
        have := ih xs k (Nat.lt_of_succ_lt_succ hk) hm
        cases b with
        | false => exact this
        | true =>
          rw [List.take_succ_cons, List.count_cons_self]
          exact this

theorem maskSelect_range_getD {α : Type} (f : Nat → α) (d : α) (mask : List Bool) (N b : Nat) (hb : b < N)
    (hm : mask.getD b false = true) :
    (maskSelect mask ((List.range N).map f)).getD ((mask.take b).count true) d = f b := by
  rw [maskSelect_getD d mask _ b (by simpa using hb) hm]
  simp [hb]

end

end Overrides
end Pyhf
