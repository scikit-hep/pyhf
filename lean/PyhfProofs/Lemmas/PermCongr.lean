import PyhfProofs.Lemmas.PermInv
import PyhfProofs.Lemmas.Build
import PyhfProofs.Lemmas.Except
import PyhfProofs.Lemmas.ReqDict
/-!
# Reordering invariance — congruence under equal cell lookups
(see the header of `PermInv.lean` for the overview)

For `h : LookupEq s s'` (the lookups `findSample · c sm` agree up to the order of the found sample's modifier list)
and a fixed channel summary `cfg`, every table, every construction check and every parameter-set function gives the
same value on `s` and `s'`; with `s.parameters ~ s'.parameters` also `createParamsets`, and with equal duplicate checks
and equal summaries `buildModel` itself (`buildModel_congr`).
-/
set_option linter.unusedSectionVars false
namespace Pyhf.PermInv
open List
section
variable {K : Type} [Add K] [Sub K] [Mul K] [Div K] [Neg K] [OfNat K 0] [OfNat K 1]
  [OfScientific K] [LT K] [LE K] [DecidableLT K] [DecidableLE K] [BEq K]
variable {s s' : Spec K}

/-! ## per-sample tables depend on the specification only through the cell lookups -/

theorem nomBlk_congr (h : LookupEq s s') (cfg : Config) (sm : String) : nomBlk s cfg sm = nomBlk s' cfg sm := by
  funext c
  rcases h.cases c sm with ⟨h1, h2⟩ | ⟨x, x', h1, h2, hd, hm⟩
  · simp only [nomBlk, h1, h2]
  · simp only [nomBlk, h1, h2, hd]

theorem nomTab_congr (h : LookupEq s s') (cfg : Config) (sm : String) : nomTab s cfg sm = nomTab s' cfg sm := by
  unfold nomTab; rw [nomBlk_congr h]

theorem maskBlk_congr (h : LookupEq s s') (cfg : Config) (n : String) (t : ModType) (sm : String) :
    maskBlk s cfg n t sm = maskBlk s' cfg n t sm := by
  funext c
  rcases h.cases c sm with ⟨h1, h2⟩ | ⟨x, x', h1, h2, hd, hm⟩
  · simp only [maskBlk, h1, h2]
  · simp only [maskBlk, h1, h2, hd, hm]

theorem maskTab_congr (h : LookupEq s s') (cfg : Config) (n : String) (t : ModType) (sm : String) :
    maskTab s cfg n t sm = maskTab s' cfg n t sm := by
  unfold maskTab; rw [maskBlk_congr h]

theorem uncrtBlk_congr (h : LookupEq s s') (cfg : Config) (n : String) (t : ModType) (sm : String) :
    uncrtBlk s cfg n t sm = uncrtBlk s' cfg n t sm := by
  funext c
  rcases h.cases c sm with ⟨h1, h2⟩ | ⟨x, x', h1, h2, hd, hm⟩
  · simp only [uncrtBlk, h1, h2]
  · simp only [uncrtBlk, h1, h2, hd, hm]

theorem uncrtTab_congr (h : LookupEq s s') (cfg : Config) (n : String) (t : ModType) (sm : String) :
    uncrtTab s cfg n t sm = uncrtTab s' cfg n t sm := by
  unfold uncrtTab; rw [uncrtBlk_congr h]

theorem varBlk_congr (h : LookupEq s s') (cfg : Config) (n : String) (t : ModType) (sm : String) (hi : Bool) :
    varBlk s cfg n t sm hi = varBlk s' cfg n t sm hi := by
  funext c
  rcases h.cases c sm with ⟨h1, h2⟩ | ⟨x, x', h1, h2, hd, hm⟩
  · simp only [varBlk, h1, h2]
  · simp only [varBlk, h1, h2, hd, hm]

theorem varTab_congr (h : LookupEq s s') (cfg : Config) (n : String) (t : ModType) (sm : String) (hi : Bool) :
    varTab s cfg n t sm hi = varTab s' cfg n t sm hi := by
  unfold varTab; rw [varBlk_congr h]

theorem nominalLengthsOK_congr (h : LookupEq s s') (cfg : Config) :
    nominalLengthsOK s cfg = nominalLengthsOK s' cfg := by
  rw [Bool.eq_iff_iff, nominalLengthsOK_iff, nominalLengthsOK_iff]
  simp only [nomBlk_congr h]

theorem finalizeLengthsOK_congr (h : LookupEq s s') (cfg : Config) (t : ModType) :
    finalizeLengthsOK s cfg t = finalizeLengthsOK s' cfg t := by
  unfold finalizeLengthsOK
  simp only [nomTab_congr h, varTab_congr h, uncrtTab_congr h]

theorem histoBlocksOK_congr (h : LookupEq s s') (cfg : Config) : histoBlocksOK s cfg = histoBlocksOK s' cfg := by
  unfold histoBlocksOK
  simp only [varBlk_congr h]

theorem staterrorSigmas_congr (P : Prim K) (h : LookupEq s s') (cfg : Config) (n : String) :
    staterrorSigmas P s cfg n = staterrorSigmas P s' cfg n := by
  unfold staterrorSigmas
  simp only [nomTab_congr h, maskTab_congr h, uncrtTab_congr h]

theorem singularMask_congr (h : LookupEq s s') (cfg : Config) (n : String) (t : ModType) :
    singularMask s cfg n t = singularMask s' cfg n t := by
  unfold singularMask singularSample
  rw [funext (maskTab_congr h cfg n t)]

theorem accessField_congr (h : LookupEq s s') (cfg : Config) (sl : List (String × Nat × Nat)) (n : String) (t : ModType) :
    accessField s cfg sl n t = accessField s' cfg sl n t := by
  unfold accessField
  simp only [singularMask_congr h]

theorem reindexError_congr (h : LookupEq s s') (cfg : Config) (sl : List (String × Nat × Nat)) (t : ModType) :
    reindexError s cfg sl t = reindexError s' cfg sl t := by
  unfold reindexError
  simp only [singularMask_congr h]

/-! ## the declaring cells, up to the order of each sample's modifier list -/

/-- what the builders read of a declaring cell -/
def cellView (c : String × Sample K × Modifier K) : String × List K × Modifier K := (c.1, c.2.1.data, c.2.2)

theorem declaringCells_congr (h : LookupEq s s') (cfg : Config) (t : ModType) :
    (declaringCells s cfg t).map cellView = (declaringCells s' cfg t).map cellView := by
  unfold declaringCells
  rw [List.map_flatMap, List.map_flatMap]
  refine List.flatMap_congr fun c _ => ?_
  rw [List.map_flatMap, List.map_flatMap]
  refine List.flatMap_congr fun sm _ => ?_
  rcases h.cases c sm with ⟨h1, h2⟩ | ⟨x, x', h1, h2, hd, hm⟩
  · simp only [h1, h2]
  · simp only [h1, h2, List.map_filterMap]
    refine List.filterMap_congr fun nt _ => ?_
    obtain ⟨n, t'⟩ := nt
    by_cases ht : (t' == t) = true
    · simp only [ht, if_true, hm, Option.map_map]
      exact Option.map_congr fun m _ => by simp only [Function.comp, cellView, hd]
    · simp only [ht]; rfl

theorem foldl_congr_view {α β γ : Type} (v : α → β) (f : γ → α → γ) (f' : γ → β → γ)
    (hf : ∀ a c, f a c = f' a (v c)) (l l' : List α) (h : l.map v = l'.map v) (i : γ) :
    l.foldl f i = l'.foldl f i := by
  have e : ∀ l : List α, l.foldl f i = (l.map v).foldl f' i := by
    intro l; rw [List.foldl_map]; congr 1; funext a c; exact hf a c
  rw [e l, e l', h]

theorem sfFirstSize_congr (h : LookupEq s s') (cfg : Config) (n : String) :
    sfFirstSize s cfg n = sfFirstSize s' cfg n := by
  have e : ∀ s : Spec K, sfFirstSize s cfg n =
      ((((declaringCells s cfg .shapefactor).map cellView).find? (·.1 == n)).map fun c => c.2.1.length) := fun s => by
    rw [List.find?_map, Option.map_map]
    rfl
  rw [e, e, declaringCells_congr h]

theorem modAppendError_congr (h : LookupEq s s') (cfg : Config) (x x' : Sample K) (hd : x.data = x'.data)
    (hm : ∀ n t, findMod x n t = findMod x' n t) (n : String) (t : ModType) :
    modAppendError s cfg x n t = modAppendError s' cfg x' n t := by
  unfold modAppendError
  simp only [hm, hd, sfFirstSize_congr h]

theorem walkError_congr (h : LookupEq s s') (cfg : Config) : walkError s cfg = walkError s' cfg := by
  refine congrArg (List.findSome? · _) (funext fun c => congrArg (List.findSome? · _) (funext fun sm => ?_))
  rcases h.cases c sm with ⟨h1, h2⟩ | ⟨x, x', h1, h2, hd, hm⟩
  · simp only [h1, h2]
  · simp only [h1, h2, hd, modAppendError_congr h cfg x x' hd hm]

/-! ## parameter sets and model construction -/

theorem map_congr_view {α β γ : Type} (v : α → β) (F : α → γ) (hF : ∀ c c', v c = v c' → F c = F c')
    {l l' : List α} (h : l.map v = l'.map v) : l.map F = l'.map F := by
  rw [← forall₂_eq_eq_eq, forall₂_map_left_iff, forall₂_map_right_iff] at h ⊢
  exact h.imp hF

theorem builderReqs_congr (P : Prim K) (h : LookupEq s s') (cfg : Config) (t : ModType) :
    builderReqs P s cfg t = builderReqs P s' cfg t := by
  by_cases ht : t = .staterror
  · subst ht; simp only [builderReqs, staterrorSigmas_congr P h]
  · rw [builderReqs_eq P s cfg t ht, builderReqs_eq P s' cfg t ht,
      map_congr_view cellView _ (fun c c' hv => ?_) (declaringCells_congr h cfg t)]
    simp only [cellView, Prod.mk.injEq] at hv
    simp only [reqOf, hv.1, hv.2.1, hv.2.2]

theorem requiredParamsets_congr (P : Prim K) (h : LookupEq s s') (cfg : Config) :
    requiredParamsets P s cfg = requiredParamsets P s' cfg := by
  unfold requiredParamsets
  simp only [builderReqs_congr P h]

theorem dup_eq (l : List String) : createParamsets.dup l = hasDup l := by
  induction l with
  | nil => rfl
  | cons a l ih => simp only [createParamsets.dup, hasDup, ih]

theorem hasDup_perm {l l' : List String} (h : l.Perm l') : hasDup l = hasDup l' :=
  bool_eq_of_false_iff (by rw [hasDup_false_iff, hasDup_false_iff]; exact h.nodup_iff)

theorem find?_perm_nodup {α : Type} (key : α → String) {l l' : List α} (h : l.Perm l') (hn : (l.map key).Nodup) (k : String) :
    l.find? (fun a => key a == k) = l'.find? (fun a => key a == k) := by
  rw [← List.head?_filter, ← List.head?_filter,
    filter_unique_perm _ _ _ h (uniq_of_nodup_map key l hn k) (List.Nodup.of_map _ hn)]

theorem createParamsets_congr (P : Prim K) (h : LookupEq s s') (hp : s.parameters.Perm s'.parameters) (cfg : Config) :
    createParamsets P s cfg = createParamsets P s' cfg := by
  unfold createParamsets
  rw [requiredParamsets_congr P h, dup_eq, dup_eq, hasDup_perm (hp.map _)]
  -- the configurations are looked up only after the duplicate check, when `find?` is order-independent
  cases hd : hasDup (s'.parameters.map (·.name)) with
  | true => simp only [if_true, throw_bind]
  | false =>
    have hn : (s.parameters.map (·.name)).Nodup := by
      rw [← hasDup_false_iff, hasDup_perm (hp.map _)]; exact hd
    simp only [find?_perm_nodup (·.name) hp hn]

theorem buildModel_congr (P : Prim K) (st : Settings K) (h : LookupEq s s') (hp : s.parameters.Perm s'.parameters)
    (hd : specDuplicates s' = specDuplicates s) (hr : shapesysReuse s' = shapesysReuse s)
    (hc : mkConfig s' = mkConfig s) :
    buildModel P s' st = (buildModel P s st).map (fun m => { m with spec := s' }) := by
  simp only [buildModel_eq, hd, hr, hc, ← walkError_congr h, ← finalizeLengthsOK_congr h,
    ← createParamsets_congr P h hp, ← reindexError_congr h, map_ite_error, map_elim_error, map_bind, map_ok]

end
end Pyhf.PermInv
