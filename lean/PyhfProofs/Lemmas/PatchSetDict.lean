import PyhfModel.PatchSet
import PyhfProofs.Lemmas.Except
import PyhfProofs.Lemmas.Find
/-!
# The patch-set dictionary: its keys, the entries a successful construction leaves, one step of the constructor loop
-/
set_option linter.unusedSectionVars false
namespace Pyhf.Props.C17
open Pyhf.PatchSet

variable {V : Type} [DecidableEq V]

def keys (d : Dict V) : List (Key V) := d.map (·.1)

theorem has_iff (d : Dict V) (k : Key V) : d.has k = true ↔ k ∈ keys d := by
  simp only [Dict.has, Dict.get?, keys, Option.isSome_map, List.find?_isSome, List.mem_map, decide_eq_true_eq]

/-- the keys held by the dictionary after a successful construction: for the patch at position `j`, its name and
its value tuple, both mapped to `j` -/
def entries (i : Nat) (ps : List (Meta V)) : Dict V :=
  (ps.zipIdx i).flatMap fun pj => [(Key.name pj.1.name, pj.2), (Key.values pj.1.values, pj.2)]

theorem entries_cons (i : Nat) (p : Meta V) (ps : List (Meta V)) :
    entries i (p :: ps) = [(Key.name p.name, i), (Key.values p.values, i)] ++ entries (i + 1) ps := by
  simp [entries, List.zipIdx_cons]

theorem keys_app (d : Dict V) (a : String) (b : List V) (i : Nat) (k : Key V) :
    k ∈ keys (d ++ [(Key.name a, i), (Key.values b, i)]) ↔ k ∈ keys d ∨ k = Key.name a ∨ k = Key.values b := by
  simp [keys]

/-- one iteration of the constructor loop succeeds exactly when both keys are new and the tuple has one entry per label -/
theorem insertPatch_ok_iff (nlabels : Nat) (d : Dict V) (i : Nat) (p : Meta V) (d' : Dict V) :
    insertPatch nlabels d i p = .ok d' ↔
      (Key.name p.name ∉ keys d ∧ Key.values p.values ∉ keys d ∧ p.values.length = nlabels) ∧
      d' = d ++ [(.name p.name, i), (.values p.values, i)] := by
  unfold insertPatch
  rw [← has_iff, ← has_iff]
  constructor
  · intro h
    obtain ⟨h1, h⟩ := ite_error_eq_ok h
    obtain ⟨h2, h⟩ := ite_error_eq_ok h
    obtain ⟨h3, h⟩ := ite_error_eq_ok h
    exact ⟨⟨h1, h2, not_not.1 h3⟩, (Except.ok.inj h).symm⟩
  · rintro ⟨⟨h1, h2, h3⟩, rfl⟩
    rw [if_neg h1, if_neg h2, if_neg (not_not.2 h3)]

theorem mem_entries (ps : List (Meta V)) (k : Key V) (j : Nat) :
    (k, j) ∈ entries 0 ps ↔ ∃ p, ps[j]? = some p ∧ (k = .name p.name ∨ k = .values p.values) := by
  simp only [entries, List.mem_flatMap, List.mem_cons, Prod.mk.injEq, List.not_mem_nil, or_false, Prod.exists,
    List.mem_zipIdx_iff_getElem?, ← or_and_right]
  exact ⟨fun ⟨p, _, hp, hk, e⟩ => ⟨p, e ▸ hp, hk⟩, fun ⟨p, hp, hk⟩ => ⟨p, j, hp, hk, rfl⟩⟩

theorem lookup_entries_iff (ps : List (Meta V)) (hn : (ps.map (·.name)).Nodup) (hv : (ps.map (·.values)).Nodup) (k : Key V) (j : Nat) :
    lookup (entries 0 ps) k = .ok j ↔ ∃ p, ps[j]? = some p ∧ (k = .name p.name ∨ k = .values p.values) := by
  rw [← mem_entries]
  unfold lookup Dict.get?
  constructor
  · intro h
    cases hf : (entries 0 ps).find? (·.1 = k) with
    | none => rw [hf] at h; cases h
    | some x =>
      rw [hf] at h; cases h
      exact (show x.1 = k by simpa using List.find?_some hf) ▸ List.mem_of_find?_eq_some hf
  · intro hm
    rw [List.find?_eq_some_of_unique (p := fun x => decide (x.1 = k)) hm (by simp)]
    · rfl
    -- another entry under `k` belongs to a patch with the same name (or the same values), which is at the same position
    rintro ⟨k', j'⟩ hb hkb
    obtain rfl : k' = k := of_decide_eq_true hkb
    obtain ⟨p, hp, hk⟩ := (mem_entries ps k' j).1 hm
    obtain ⟨p', hp', hk'⟩ := (mem_entries ps k' j').1 hb
    have hlt := (List.getElem?_eq_some_iff.1 hp').1
    congr 1
    rcases hk with rfl | rfl <;> rcases hk' with e | e
    · exact (List.getElem?_inj (by simpa using hlt) hn).1 (by simp [hp, hp', Key.name.inj e])
    · cases e
    · cases e
    · exact (List.getElem?_inj (by simpa using hlt) hv).1 (by simp [hp, hp', Key.values.inj e])

end Pyhf.Props.C17
