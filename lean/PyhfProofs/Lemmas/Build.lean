import PyhfProofs.Lemmas.EngineA
import PyhfProofs.Lemmas.Except
import PyhfProofs.Lemmas.Lookup
/-! What a successful `buildModel` guarantees. -/
set_option linter.unusedSectionVars false
namespace Pyhf

section
variable {K : Type} [Add K] [Sub K] [Mul K] [Div K] [Neg K] [OfNat K 0] [OfNat K 1]
  [OfScientific K] [LT K] [LE K] [DecidableLT K] [DecidableLE K] [BEq K]

theorem mkConfig_nbOf_sum (s : Spec K) :
    (mkConfig s).nmain = ((mkConfig s).channels.map (mkConfig s).nbOf).sum := by
  unfold Config.nmain
  rw [← List.sum_eq_foldl, PermInv.mkConfig_nbins, List.map_map]
  rfl

/-- the facts established by a successful model construction (not recorded: the three `finalizeLengthsOK` checks,
`poiCheck` and the values of `npars` and `poiIndex`) -/
structure Built (P : Prim K) (s : Spec K) (st : Settings K) (m : Model K) : Prop where
  spec_eq : m.spec = s
  cfg_eq : m.cfg = mkConfig s
  settings_eq : m.settings = st
  no_duplicates : specDuplicates s = false
  no_shapesys_reuse : shapesysReuse s = false
  walk_ok : walkError s (mkConfig s) = none
  params : createParamsets P s (mkConfig s) = .ok m.ps
  slices_eq : m.slices = parSlices m.ps
  no_orphans : orphanError (mkConfig s) m.ps = none
  reindex_shapesys : reindexError s (mkConfig s) (parSlices m.ps) .shapesys = none
  reindex_staterror : reindexError s (mkConfig s) (parSlices m.ps) .staterror = none

/-- model construction as a chain of early exits: each line either refuses or hands on to the next.
(Not by `rfl`: a `match` on a scrutinee that is not a constructor does not unfold, so each is decided by `cases`.) -/
theorem buildModel_eq (P : Prim K) (s : Spec K) (st : Settings K) :
    buildModel P s st =
      if specDuplicates s || shapesysReuse s then .error .invalidModel else
      (walkError s (mkConfig s)).elim (
      if !finalizeLengthsOK s (mkConfig s) .histosys then .error .invalidModifier else
      if !finalizeLengthsOK s (mkConfig s) .shapesys then .error .invalidModifier else
      if !finalizeLengthsOK s (mkConfig s) .staterror then .error .invalidModifier else
      createParamsets P s (mkConfig s) >>= fun ps =>
      (orphanError (mkConfig s) ps).elim (
      (reindexError s (mkConfig s) (parSlices ps) .shapesys).elim (
      (reindexError s (mkConfig s) (parSlices ps) .staterror).elim (
      poiCheck st.poi ps (parSlices ps) >>= fun poiIndex =>
      .ok { spec := s, cfg := mkConfig s, ps := ps, slices := parSlices ps, npars := (suggestedInit ps).length,
            settings := st, poiIndex := poiIndex })
      .error) .error) .error) .error := by
  unfold buildModel
  simp only []
  cases walkError s (mkConfig s) with
  | some e => rfl
  | none =>
  cases createParamsets P s (mkConfig s) with
  | error e => rfl
  | ok ps =>
  simp only [Option.elim_none, bind, Except.bind]
  cases orphanError (mkConfig s) ps with
  | some e => rfl
  | none =>
  cases reindexError s (mkConfig s) (parSlices ps) .shapesys with
  | some e => rfl
  | none =>
  cases reindexError s (mkConfig s) (parSlices ps) .staterror with
  | some e => rfl
  | none => cases poiCheck st.poi ps (parSlices ps) <;> rfl

theorem buildModel_built (P : Prim K) (s : Spec K) (st : Settings K) (m : Model K)
    (h : buildModel P s st = .ok m) : Built P s st m := by
  rw [buildModel_eq] at h
  -- each early exit is ruled out in turn
  obtain ⟨hdr, h⟩ := ite_error_eq_ok h
  obtain ⟨hw, h⟩ := elim_error_eq_ok h
  obtain ⟨ps, hps, h⟩ := bind_eq_ok.mp (ite_error_eq_ok (ite_error_eq_ok (ite_error_eq_ok h).2).2).2
  obtain ⟨ho, h⟩ := elim_error_eq_ok h
  obtain ⟨h1, h⟩ := elim_error_eq_ok h
  obtain ⟨h2, h⟩ := elim_error_eq_ok h
  obtain ⟨i, -, h⟩ := bind_eq_ok.mp h
  cases h
  rw [Bool.or_eq_true, not_or, Bool.not_eq_true, Bool.not_eq_true] at hdr
  exact ⟨rfl, rfl, rfl, hdr.1, hdr.2, hw, hps, rfl, ho, h1, h2⟩

/-! ### the sorted walk and the two length conditions, cell by cell -/

theorem walkError_eq_none_iff (s : Spec K) (cfg : Config) :
    walkError s cfg = none ↔ ∀ c ∈ cfg.channels, ∀ sm ∈ cfg.samples, ∀ x, findSample s c sm = some x →
      x.data.length = cfg.nbOf c ∧ ∀ nt ∈ cfg.modifiers, modAppendError s cfg x nt.1 nt.2 = none := by
  simp only [walkError, List.findSome?_eq_none_iff]
  refine forall₂_congr fun c _ => forall₂_congr fun sm _ => ?_
  cases findSample s c sm with
  | none => exact iff_of_true rfl (fun _ h => nomatch h)
  | some x =>
    simp only [Option.some.injEq, forall_eq', bne_iff_ne, ne_eq, ite_not]
    by_cases h : x.data.length = cfg.nbOf c
    · simp only [h, if_true, List.findSome?_eq_none_iff, true_and]
    · simp only [h, if_false, reduceCtorEq, false_and]

theorem nominalLengthsOK_iff (s : Spec K) (cfg : Config) :
    nominalLengthsOK s cfg = true ↔
      ∀ c ∈ cfg.channels, ∀ sm ∈ cfg.samples, (nomBlk s cfg sm c).length = cfg.nbOf c := by
  simp only [nominalLengthsOK, List.all_eq_true, nomBlk]
  refine forall₂_congr fun c _ => forall₂_congr fun sm _ => ?_
  cases findSample s c sm <;> simp

theorem histoBlocksOK_iff (s : Spec K) (cfg : Config) :
    histoBlocksOK s cfg = true ↔ ∀ c ∈ cfg.channels, ∀ sm ∈ cfg.samples, ∀ n ∈ modsOf cfg .histosys, ∀ hi,
      (varBlk s cfg n .histosys sm hi c).length = cfg.nbOf c := by
  simp only [histoBlocksOK, modsOf, List.all_eq_true, beq_iff_eq]
  simp

theorem walk_nominal (s : Spec K) (cfg : Config) (h : walkError s cfg = none) : nominalLengthsOK s cfg = true := by
  rw [nominalLengthsOK_iff]
  intro c hc sm hsm
  unfold nomBlk
  cases hf : findSample s c sm with
  | none => simp
  | some x => exact ((walkError_eq_none_iff s cfg).mp h c hc sm hsm x hf).1

/-- a clean sorted walk gives every histosys variation the bin count of its own channel (`modAppendError` compares
both sides with the sample's data, whose length the walk has compared with the channel's): `histoBlocksOK` follows
from construction, it is not a hypothesis -/
theorem walk_histo (s : Spec K) (cfg : Config) (h : walkError s cfg = none) : histoBlocksOK s cfg = true := by
  rw [histoBlocksOK_iff]
  intro c hc sm hsm n hn hi
  unfold varBlk
  cases hf : findSample s c sm with
  | none => exact List.length_replicate
  | some x =>
    obtain ⟨hlen, hmods⟩ := (walkError_eq_none_iff s cfg).mp h c hc sm hsm x hf
    have hm : modAppendError s cfg x n .histosys = none := hmods (n, .histosys) ((mem_modsOf _ _ _).mp hn)
    unfold modAppendError at hm
    cases hfm : findMod x n .histosys with
    | none => simp only [hfm, beq_self_eq_true, if_true, hlen]
    | some md =>
      simp only [hfm, ite_eq_right_iff, reduceCtorEq, imp_false, Bool.or_eq_true, bne_iff_ne, ne_eq, not_or,
        not_not] at hm
      cases hi <;> simp only [hfm, beq_self_eq_true, Bool.false_eq_true, if_true, if_false] <;> omega

theorem reindex_sing (s : Spec K) (cfg : Config) (sl : List (String × Nat × Nat)) (t : ModType)
    (h : reindexError s cfg sl t = none) (n : String) (hmem : (n, t) ∈ cfg.modifiers) :
    (singularSample s cfg n t).isSome = true := by
  unfold reindexError at h
  rw [List.findSome?_eq_none_iff] at h
  have := h (n, t) (List.mem_filter.mpr ⟨hmem, by simp⟩)
  simp only [singularMask] at this
  cases hs : singularSample s cfg n t with
  | none => simp [hs] at this
  | some sm => rfl

theorem Built.shape {P : Prim K} {s : Spec K} {st : Settings K} {m : Model K}
    (hb : Built P s st m) : Shape m := by
  obtain ⟨rfl, hc, -, -, -, hw, -, -, -, h1, h2⟩ := hb
  rw [← hc] at hw h1 h2
  exact {
    nmain_eq := hc ▸ mkConfig_nbOf_sum m.spec
    nom_len := (nominalLengthsOK_iff _ _).mp (walk_nominal _ _ hw)
    var_len := fun c hc n hn sm hsm => (histoBlocksOK_iff _ _).mp (walk_histo _ _ hw) c hc sm hsm n hn
    sing := fun n t hmem ht => by
      rcases ht with rfl | rfl
      · exact reindex_sing _ _ _ _ h1 n hmem
      · exact reindex_sing _ _ _ _ h2 n hmem }

theorem shape_of_build {P : Prim K} {s : Spec K} {st : Settings K} {m : Model K}
    (h : buildModel P s st = .ok m) : Shape m :=
  (buildModel_built P s st m h).shape

end
end Pyhf
