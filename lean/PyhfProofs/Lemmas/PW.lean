import PyhfProofs.Lemmas.Lists
/-!
# Pointwise form of mega-channel vectors

A mega-channel vector is in *pointwise form* when it is the concatenation, over a list `xs` of
channel descriptors, of `(range (nb x)).map (v x)`.  Every table of the tensor model is of this
form, and every tensor operation the model uses (zipWith, map, fold of zipWith, replicate)
preserves it — with no side conditions on lengths once the leaves are in this form.
-/
namespace Pyhf

def pw {ι α : Type} (nb : ι → Nat) (v : ι → Nat → α) (xs : List ι) : List α :=
  xs.flatMap fun x => (List.range (nb x)).map (v x)

theorem list_eq_map_range {α : Type} (l : List α) (d : α) :
    l = (List.range l.length).map (fun i => l.getD i d) :=
  List.ext_getElem (by simp) fun i h _ => by simp [h]

theorem zipWith_map_range {α β γ : Type} (f : α → β → γ) (l : List α) (d : α) (N : Nat) (h : l.length = N)
    (ψ : Nat → β) : List.zipWith f l ((List.range N).map ψ) = (List.range N).map fun b => f (l.getD b d) (ψ b) := by
  subst h
  apply List.ext_getElem <;> simp +contextual

theorem pw_length {ι α : Type} (nb : ι → Nat) (v : ι → Nat → α) (xs : List ι) :
    (pw nb v xs).length = (xs.map nb).sum := by
  simp [pw, List.length_flatMap]

/-- leaf: blocks of the right length are in pointwise form -/
theorem flatMap_eq_pw {ι α : Type} (nb : ι → Nat) (f : ι → List α) (d : α) (xs : List ι)
    (h : ∀ x ∈ xs, (f x).length = nb x) :
    xs.flatMap f = pw nb (fun x b => (f x).getD b d) xs :=
  List.flatMap_congr fun x hx => h x hx ▸ list_eq_map_range (f x) d

theorem pw_zipWith {ι α β γ : Type} (f : α → β → γ) (nb : ι → Nat) (u : ι → Nat → α) (v : ι → Nat → β)
    (xs : List ι) :
    List.zipWith f (pw nb u xs) (pw nb v xs) = pw nb (fun x b => f (u x b) (v x b)) xs := by
  unfold pw
  rw [zipWith_flatMap]
  · congr 1; funext x; rw [List.zipWith_map, List.zipWith_self]
  · intro x _; simp

theorem pw_zip {ι α β : Type} (nb : ι → Nat) (u : ι → Nat → α) (v : ι → Nat → β) (xs : List ι) :
    List.zip (pw nb u xs) (pw nb v xs) = pw nb (fun x b => (u x b, v x b)) xs :=
  pw_zipWith Prod.mk nb u v xs

theorem pw_map {ι α β : Type} (f : α → β) (nb : ι → Nat) (u : ι → Nat → α) (xs : List ι) :
    (pw nb u xs).map f = pw nb (fun x b => f (u x b)) xs := by
  simp [pw, List.map_flatMap, Function.comp_def]

theorem pw_replicate {ι α : Type} (nb : ι → Nat) (a : α) (xs : List ι) :
    List.replicate ((xs.map nb).sum) a = pw nb (fun _ _ => a) xs := by
  induction xs with
  | nil => rfl
  | cons x xs ih => simp [pw, List.replicate_add, ih]

theorem pw_foldl {ι α β : Type} (op : α → β → α) (nb : ι → Nat) (a : ι → Nat → α) (vs : List (ι → Nat → β))
    (xs : List ι) :
    (vs.map fun v => pw nb v xs).foldl (List.zipWith op) (pw nb a xs)
      = pw nb (fun x b => (vs.map fun v => v x b).foldl op (a x b)) xs := by
  induction vs generalizing a with
  | nil => rfl
  | cons v vs ih =>
    simp only [List.map_cons, List.foldl_cons]
    rw [pw_zipWith, ih]

theorem pw_congr {ι α : Type} (nb : ι → Nat) (u v : ι → Nat → α) (xs : List ι)
    (h : ∀ x ∈ xs, ∀ b, b < nb x → u x b = v x b) : pw nb u xs = pw nb v xs := by
  apply List.flatMap_congr
  intro x hx
  exact List.map_congr_left fun b hb => h x hx b (List.mem_range.mp hb)

end Pyhf
