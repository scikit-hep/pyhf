import PyhfProofs.Lemmas.EngineA
import Mathlib.Data.List.GetD
/-! Batched evaluation: the flat index `t·npars + i` of the reshaped parameter tensor reads row `t`,
and the model reads only indices below `npars`. -/
set_option linter.unusedSectionVars false
namespace Pyhf

/-- `reshape(rows, -1)[t·n + i] = rows[t][i]` for rows of equal length `n` -/
theorem flat_index_row {α : Type} (d : α) (n : Nat) (rows : List (List α)) (hrows : ∀ r ∈ rows, r.length = n)
    (t i : Nat) (ht : t < rows.length) (hi : i < n) :
    rows.flatten.getD (t * n + i) d = (rows.getD t []).getD i d := by
  induction rows generalizing t with
  | nil => simp at ht
  | cons r rs ih =>
    have hr : r.length = n := hrows r (by simp)
    cases t with
    | zero =>
      simp only [List.flatten_cons, Nat.zero_mul, Nat.zero_add, List.getD_cons_zero]
      rw [List.getD_append _ _ _ _ (by omega)]
    | succ t =>
      simp only [List.flatten_cons, List.getD_cons_succ]
      have e : (t + 1) * n + i = r.length + (t * n + i) := by rw [hr, Nat.succ_mul]; omega
      rw [e, List.getD_append_right _ _ _ _ (by omega)]
      simp only [Nat.add_sub_cancel_left]
      exact ih (fun q hq => hrows q (by simp [hq])) t (by simpa using ht)

section
variable {K : Type} [Add K] [Sub K] [Mul K] [Div K] [Neg K] [OfNat K 0] [OfNat K 1]
  [OfScientific K] [LT K] [LE K] [DecidableLT K] [DecidableLE K] [BEq K]

theorem parOfRow_eq (npars : Nat) (rows : List (List K)) (hrows : ∀ r ∈ rows, r.length = npars)
    (t : Nat) (ht : t < rows.length) (i : Nat) (hi : i < npars) :
    parOfRow npars rows t i = parOf (rows.getD t []) i :=
  flat_index_row 0 npars rows hrows t i ht hi

theorem selection_lt (m : Model K) (N : Nat) (n : String) (h2 : (sliceOf m.slices n).2 ≤ N) :
    ∀ k ∈ selection m.slices n, k < N := by
  intro k hk
  unfold selection at hk
  simp only [List.mem_map, List.mem_range] at hk
  omega

/-- in range by `selection_lt`; past the end of the selection the read is `0`, hence `hN` -/
theorem selection_getD_lt (m : Model K) (N : Nat) (hN : 0 < N) (n : String) (h2 : (sliceOf m.slices n).2 ≤ N) (k : Nat) :
    (selection m.slices n).getD k 0 < N := by
  rw [List.getD_eq_getElem?_getD]
  cases h : (selection m.slices n)[k]? with
  | none => exact hN
  | some v => exact selection_lt m N n h2 v (List.mem_of_getElem? h)

theorem accessP_lt (m : Model K) (N : Nat) (hN : 0 < N) (n : String) (t : ModType)
    (h2 : (sliceOf m.slices n).2 ≤ N) (x : Chan) (b : Nat) : accessP m n t x b < N := by
  have key := selection_getD_lt m N hN n h2
  have hread : ∀ k, selRead (selection m.slices n) k < N := by
    intro k
    unfold selRead
    split
    · cases hs : selection m.slices n with
      | nil => exact hN
      | cons a l => simpa [hs] using key 0
    · exact key k
  by_cases ht : t = .shapefactor
  · subst ht
    show (if b < _ then _ else 0) < N
    split
    · exact key _
    · exact hN
  · rw [accessP_of_ne m n ht]
    split
    · exact hread _
    · exact hN

theorem totalP_congr (P : Prim K) (m : Model K) (N : Nat) (hr : readsBelow m N = true) (par par' : Nat → K)
    (h : ∀ k, k < N → par k = par' k) (x : Chan) (b : Nat) :
    totalP P m par x b = totalP P m par' x b := by
  unfold readsBelow at hr
  simp only [Bool.and_eq_true, decide_eq_true_eq, List.all_eq_true] at hr
  obtain ⟨hN, hall⟩ := hr
  have hmods : ∀ t n, n ∈ modsOf m.cfg t → (sliceOf m.slices n).1 < N ∧ (sliceOf m.slices n).2 ≤ N := by
    intro t n hn
    have := hall (n, t) ((mem_modsOf _ _ _).mp hn)
    simpa using this
  have hlumi : lumiTot m par = lumiTot m par' :=
    congrArg sumK (List.flatMap_congr fun n hn => List.map_congr_left fun k hk => h k (selection_lt m N n (hmods _ n hn).2 k hk))
  have hfac : ∀ t n, n ∈ modsOf m.cfg t → ∀ sm, factorP P m par n t sm x b = factorP P m par' n t sm x b := by
    intro t n hn sm
    obtain ⟨h1, h2⟩ := hmods t n hn
    unfold factorP valueP
    cases t <;> simp only [hlumi, h _ h1, h _ (accessP_lt m N hN n _ h2 x b)]
  have hdel : ∀ n, n ∈ modsOf m.cfg .histosys → ∀ sm, deltaP m par n sm x b = deltaP m par' n sm x b := by
    intro n hn sm
    unfold deltaP
    rw [h _ (hmods _ n hn).1]
  have e1 : ∀ sm, (factorTypes.flatMap fun t => (modsOf m.cfg t).map fun n => factorP P m par n t sm x b)
      = factorTypes.flatMap fun t => (modsOf m.cfg t).map fun n => factorP P m par' n t sm x b :=
    fun sm => List.flatMap_congr fun t _ => List.map_congr_left fun n hn => hfac t n hn sm
  have e2 : ∀ sm, ((modsOf m.cfg .histosys).map fun n => deltaP m par n sm x b)
      = (modsOf m.cfg .histosys).map fun n => deltaP m par' n sm x b :=
    fun sm => List.map_congr_left fun n hn => hdel n hn sm
  simp only [totalP, sampleP, nomPlusP, e1, e2]

theorem ct_go_congr (m : Model K) (N : Nat) (hN : 0 < N) (par par' : Nat → K) (h : ∀ k, k < N → par k = par' k)
    (ps : List (Paramset K)) (hps : ∀ p ∈ ps, (sliceOf m.slices p.name).2 ≤ N) (start : Nat) :
    constraintTerms.go m par ps start = constraintTerms.go m par' ps start := by
  induction ps generalizing start with
  | nil => rfl
  | cons p ps ih =>
    simp only [constraintTerms.go]
    rw [ih (fun q hq => hps q (by simp [hq]))]
    have key : ∀ i, par ((selection m.slices p.name).getD i 0) = par' ((selection m.slices p.name).getD i 0) :=
      fun i => h _ (selection_getD_lt m N hN p.name (hps p (by simp)) i)
    cases p.ptype <;> simp only [key]

theorem constraintTerms_congr (m : Model K) (N : Nat) (hr : constraintReadsBelow m N = true) (par par' : Nat → K)
    (h : ∀ k, k < N → par k = par' k) : constraintTerms m par = constraintTerms m par' := by
  unfold constraintReadsBelow at hr
  simp only [Bool.and_eq_true, decide_eq_true_eq, List.all_eq_true] at hr
  exact ct_go_congr m N hr.1 par par' h _ hr.2 0

theorem expectedActual_eq_of_agree (P : Prim K) (m : Model K) (hs : Shape m) (N : Nat) (hr : readsBelow m N = true)
    (par par' : Nat → K) (h : ∀ k, k < N → par k = par' k) :
    expectedActual P m par = expectedActual P m par' := by
  rw [expectedActual_pw P m hs, expectedActual_pw P m hs]
  exact pw_congr _ _ _ _ fun x _ b _ => totalP_congr P m N hr par par' h x b

theorem logpdfTerms_eq_of_agree (P : Prim K) (m : Model K) (hs : Shape m) (N : Nat) (hr : readsBelow m N = true)
    (hcr : constraintReadsBelow m N = true) (par par' : Nat → K) (h : ∀ k, k < N → par k = par' k) (data : List K) :
    logpdfTerms P m par data = logpdfTerms P m par' data := by
  unfold logpdfTerms
  simp only [expectedActual_eq_of_agree P m hs N hr par par' h, constraintTerms_congr m N hcr par par' h]

end
end Pyhf
