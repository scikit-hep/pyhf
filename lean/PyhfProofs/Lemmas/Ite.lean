/-!
# Walking down a generated decision tree

The translator prints what pyhf does on symbolic inputs as a tree of `if`s over equalities of atoms.  A statement about such a tree is
proved leaf by leaf: `repeat' (apply ite_of_cases (· = _) <;> intro _)` descends (the motive is written out: the goal with a hole where
the tree stands), and at a leaf the context holds the tests of the path.
-/

/-- One step down the tree.  The test is recorded as `c = True` or `c = False` so that `simp [*]` at a leaf decides exactly the tests on
the path; an equation `a = b` in the context would be used to rewrite `a` instead, and tests mentioning `a` would no longer be found. -/
theorem ite_of_cases {α : Sort _} {c : Prop} [Decidable c] {t e : α} (P : α → Prop) (ht : c = True → P t) (he : c = False → P e) :
    P (if c then t else e) := by
  by_cases h : c
  · rw [if_pos h]; exact ht (eq_true h)
  · rw [if_neg h]; exact he (eq_false h)
