import Mathlib.Data.List.Nodup
import Mathlib.Order.Defs.PartialOrder
/-! Lists whose entries have distinct keys: `find?` has one candidate, and there is one listing sorted by key. -/

theorem List.find?_eq_some_of_unique {α : Type} {l : List α} {p : α → Bool} {a : α} (ha : a ∈ l) (hp : p a = true)
    (hu : ∀ b ∈ l, p b = true → b = a) : l.find? p = some a := by
  cases h : l.find? p with
  | none => exact absurd hp (by simpa using List.find?_eq_none.1 h a ha)
  | some b => exact congrArg some (hu b (List.mem_of_find?_eq_some h) (List.find?_some h))

theorem List.Perm.eq_of_sorted_key {α κ : Type} [PartialOrder κ] {key : α → κ} {l l' : List α} (hp : l.Perm l')
    (hn : (l.map key).Nodup) (hs : l.Pairwise fun a b => key a ≤ key b) (hs' : l'.Pairwise fun a b => key a ≤ key b) : l = l' :=
  hp.eq_of_pairwise (fun _ _ ha hb hab hba => List.inj_on_of_nodup_map hn ha (hp.mem_iff.2 hb) (le_antisymm hab hba)) hs hs'
