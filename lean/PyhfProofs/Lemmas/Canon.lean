import PyhfModel.Spec
import Mathlib.Data.String.Basic
import Mathlib.Data.List.Nodup
/-! `sorted(set(xs))` is canonical: sorted, duplicate-free, same members, invariant under permutation. -/
namespace Pyhf

theorem nodup_eraseDups {α : Type} [BEq α] [LawfulBEq α] : ∀ (l : List α), l.eraseDups.Nodup
  | [] => List.nodup_nil
  | a :: as => by
    rw [List.eraseDups_cons, List.nodup_cons, List.mem_eraseDups, List.mem_filter, beq_self_eq_true]
    exact ⟨fun h => Bool.false_ne_true h.2, nodup_eraseDups (as.filter fun b => !b == a)⟩
termination_by l => l.length
decreasing_by exact Nat.lt_succ_of_le (List.length_filter_le _ _)

theorem strLe_trans (a b c : String) : strLe a b = true → strLe b c = true → strLe a c = true := by
  unfold strLe; simp only [decide_eq_true_eq]; exact le_trans

theorem strLe_total (a b : String) : (strLe a b || strLe b a) = true := by
  unfold strLe; simp only [Bool.or_eq_true, decide_eq_true_eq]; exact le_total a b

theorem strLe_antisymm (a b : String) : strLe a b = true → strLe b a = true → a = b := by
  unfold strLe; simp only [decide_eq_true_eq]; exact le_antisymm

theorem canon_mem (xs : List String) (a : String) : a ∈ canon xs ↔ a ∈ xs := by
  unfold canon
  rw [(List.mergeSort_perm _ _).mem_iff, List.mem_eraseDups]

theorem canon_nodup (xs : List String) : (canon xs).Nodup :=
  (List.mergeSort_perm _ _).nodup_iff.mpr (nodup_eraseDups xs)

theorem canon_sorted (xs : List String) : (canon xs).Pairwise (fun a b => strLe a b = true) :=
  List.pairwise_mergeSort strLe_trans strLe_total _

theorem canon_strictly_sorted (xs : List String) : (canon xs).Pairwise (· < ·) := by
  have hs := canon_sorted xs
  have hn := canon_nodup xs
  refine (hs.and hn).imp ?_
  intro a b ⟨h1, h2⟩
  unfold strLe at h1
  exact lt_of_le_of_ne (by simpa using h1) h2

theorem canon_eq_of_mem_iff (xs ys : List String) (h : ∀ a, a ∈ xs ↔ a ∈ ys) : canon xs = canon ys := by
  apply List.Perm.eq_of_pairwise (le := fun a b => strLe a b = true)
  · intro a b _ _ h1 h2; exact strLe_antisymm a b h1 h2
  · exact canon_sorted xs
  · exact canon_sorted ys
  · rw [List.perm_ext_iff_of_nodup (canon_nodup xs) (canon_nodup ys)]
    intro a; rw [canon_mem, canon_mem, h]

theorem canon_perm (xs ys : List String) (h : xs.Perm ys) : canon xs = canon ys :=
  canon_eq_of_mem_iff xs ys (fun _ => h.mem_iff)

theorem canon_idem (xs : List String) : canon (canon xs) = canon xs :=
  canon_eq_of_mem_iff _ _ (fun a => canon_mem xs a)

/-! the same for `(name, type)` pairs -/

theorem pairLe_iff (a b : String × String) : pairLe a b = true ↔ (a.1 < b.1 ∨ (a.1 = b.1 ∧ a.2 ≤ b.2)) := by
  unfold pairLe; simp

theorem pairLe_trans (a b c : String × String) : pairLe a b = true → pairLe b c = true → pairLe a c = true := by
  simp only [pairLe_iff]
  rintro (h1 | ⟨h1, h1'⟩) (h2 | ⟨h2, h2'⟩)
  · left; exact lt_trans h1 h2
  · left; rw [← h2]; exact h1
  · left; rw [h1]; exact h2
  · right; exact ⟨h1.trans h2, le_trans h1' h2'⟩

theorem pairLe_total (a b : String × String) : (pairLe a b || pairLe b a) = true := by
  simp only [Bool.or_eq_true, pairLe_iff]
  rcases lt_trichotomy a.1 b.1 with h | h | h
  · left; left; exact h
  · rcases le_total a.2 b.2 with h2 | h2
    · left; right; exact ⟨h, h2⟩
    · right; right; exact ⟨h.symm, h2⟩
  · right; left; exact h

theorem pairLe_antisymm (a b : String × String) : pairLe a b = true → pairLe b a = true → a = b := by
  simp only [pairLe_iff]
  rintro (h1 | ⟨h1, h1'⟩) (h2 | ⟨h2, h2'⟩)
  · exact absurd (lt_trans h1 h2) (lt_irrefl _)
  · rw [h2] at h1; exact absurd h1 (lt_irrefl _)
  · rw [h1] at h2; exact absurd h2 (lt_irrefl _)
  · exact Prod.ext h1 (le_antisymm h1' h2')

theorem canonPairs_mem (xs : List (String × String)) (a : String × String) : a ∈ canonPairs xs ↔ a ∈ xs := by
  unfold canonPairs
  rw [(List.mergeSort_perm _ _).mem_iff, List.mem_eraseDups]

theorem canonPairs_nodup (xs : List (String × String)) : (canonPairs xs).Nodup :=
  (List.mergeSort_perm _ _).nodup_iff.mpr (nodup_eraseDups xs)

theorem canonPairs_sorted (xs : List (String × String)) : (canonPairs xs).Pairwise (fun a b => pairLe a b = true) :=
  List.pairwise_mergeSort pairLe_trans pairLe_total _

theorem canonPairs_eq_of_mem_iff (xs ys : List (String × String)) (h : ∀ a, a ∈ xs ↔ a ∈ ys) :
    canonPairs xs = canonPairs ys := by
  apply List.Perm.eq_of_pairwise (le := fun a b => pairLe a b = true)
  · intro a b _ _ h1 h2; exact pairLe_antisymm a b h1 h2
  · exact canonPairs_sorted xs
  · exact canonPairs_sorted ys
  · rw [List.perm_ext_iff_of_nodup (canonPairs_nodup xs) (canonPairs_nodup ys)]
    intro a; rw [canonPairs_mem, canonPairs_mem, h]

end Pyhf
