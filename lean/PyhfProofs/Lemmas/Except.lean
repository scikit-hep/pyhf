/-!
# `Except`: binds, early exits and `mapM`

The model's fallible functions are `do` blocks in `Except`: a chain of binds, `if … then throw …` exits and `mapM`s.  A hypothesis
`… = .ok a` (or `.error e`) about one of them is taken apart with these inversions instead of `split` / `split_ifs` on the whole block.
-/
namespace Pyhf
open List

theorem bind_eq_ok {ε α β : Type} {x : Except ε α} {f : α → Except ε β} {b : β} :
    x >>= f = .ok b ↔ ∃ a, x = .ok a ∧ f a = .ok b := by
  cases x <;> simp [bind, Except.bind]

theorem bind_eq_error {ε α β : Type} {x : Except ε α} {f : α → Except ε β} {e : ε} :
    x >>= f = .error e ↔ x = .error e ∨ ∃ a, x = .ok a ∧ f a = .error e := by
  cases x <;> simp [bind, Except.bind]

theorem ite_error_eq_ok {ε α : Type} {c : Prop} [Decidable c] {e : ε} {x : Except ε α} {a : α}
    (h : (if c then .error e else x) = .ok a) : ¬c ∧ x = .ok a := by
  split at h
  · cases h
  · exact ⟨‹_›, h⟩

theorem ite_error_eq_error {ε α : Type} {c : Prop} [Decidable c] {e e' : ε} {x : Except ε α}
    (h : (if c then .error e else x) = .error e') : (c ∧ e' = e) ∨ (¬c ∧ x = .error e') := by
  split at h
  · cases h; exact .inl ⟨‹_›, rfl⟩
  · exact .inr ⟨‹_›, h⟩

theorem mapM_ok {α β ε : Type} (f : α → Except ε β) :
    ∀ (l : List α) (res : List β), l.mapM f = .ok res → l.map f = res.map .ok
  | [], res, h => by cases h; rfl
  | a :: l, res, h => by
    rw [List.mapM_cons, bind_eq_ok] at h
    obtain ⟨b, hb, h⟩ := h
    rw [bind_eq_ok] at h
    obtain ⟨bs, hbs, h⟩ := h
    cases h
    rw [map_cons, map_cons, hb, mapM_ok f l bs hbs]

theorem mapM_ok_left {α β ε : Type} {f : α → Except ε β} {l : List α} {res : List β} (h : l.mapM f = .ok res)
    {a : α} (ha : a ∈ l) : ∃ b ∈ res, f a = .ok b := by
  have := List.mem_map_of_mem (f := f) ha
  rw [mapM_ok f l res h] at this
  obtain ⟨b, hb, h⟩ := List.mem_map.mp this
  exact ⟨b, hb, h.symm⟩

theorem mapM_ok_right {α β ε : Type} {f : α → Except ε β} {l : List α} {res : List β} (h : l.mapM f = .ok res)
    {b : β} (hb : b ∈ res) : ∃ a ∈ l, f a = .ok b := by
  have := List.mem_map_of_mem (f := Except.ok (ε := ε)) hb
  rw [← mapM_ok f l res h] at this
  exact List.mem_map.mp this

theorem mapM_error {α β ε : Type} (f : α → Except ε β) :
    ∀ (l : List α) (e : ε), l.mapM f = .error e → ∃ a ∈ l, f a = .error e
  | [], e, h => by cases h
  | a :: l, e, h => by
    rw [List.mapM_cons, bind_eq_error] at h
    rcases h with h | ⟨b, _, h⟩
    · exact ⟨a, mem_cons_self, h⟩
    · rw [bind_eq_error] at h
      rcases h with h | ⟨bs, _, h⟩
      · obtain ⟨a', ha', h'⟩ := mapM_error f l e h
        exact ⟨a', mem_cons_of_mem _ ha', h'⟩
      · cases h

/-- a fold whose step first computes (and may fail) and then updates purely collects first and folds afterwards -/
theorem foldlM_bind_pure {α β γ ε : Type} (g : α → Except ε γ) (h : β → γ → β) (l : List α) (init : β) :
    l.foldlM (fun b a => g a >>= fun c => pure (h b c)) init = l.mapM g >>= fun cs => pure (cs.foldl h init) := by
  induction l generalizing init with
  | nil => rfl
  | cons a l ih =>
    simp only [List.foldlM_cons, List.mapM_cons, bind_assoc, pure_bind, ih, List.foldl_cons]

/-! An early exit written with an `Option` of the error (`match check with | some e => .error e | none => …`). -/

theorem elim_error_eq_ok {ε α : Type} {o : Option ε} {x : Except ε α} {a : α}
    (h : o.elim x .error = .ok a) : o = none ∧ x = .ok a := by
  cases o with
  | none => exact ⟨rfl, h⟩
  | some e => cases h

theorem elim_error_eq_error {ε α : Type} {o : Option ε} {x : Except ε α} {e : ε}
    (h : o.elim x .error = .error e) : o = some e ∨ (o = none ∧ x = .error e) := by
  cases o with
  | none => exact .inr ⟨rfl, h⟩
  | some e' => cases h; exact .inl rfl

/-! `Except.map` commutes with the exits: what makes a congruence of two chains of exits a single `simp only`. -/

theorem map_ite_error {ε α β : Type} (f : α → β) (c : Prop) [Decidable c] (e : ε) (x : Except ε α) :
    (if c then .error e else x).map f = if c then .error e else x.map f := by split <;> rfl

theorem map_elim_error {ε α β : Type} (f : α → β) (o : Option ε) (x : Except ε α) :
    (o.elim x .error).map f = o.elim (x.map f) .error := by cases o <;> rfl

theorem map_bind {ε α β γ : Type} (f : β → γ) (x : Except ε α) (g : α → Except ε β) :
    (x >>= g).map f = x >>= fun a => (g a).map f := by cases x <;> rfl

theorem map_ok {ε α β : Type} (f : α → β) (a : α) : (Except.ok a : Except ε α).map f = .ok (f a) := rfl

theorem throw_bind {ε α β : Type} (e : ε) (f : α → Except ε β) : (throw e >>= f) = throw e := rfl

theorem mapM_filterMap_ok {α β γ ε : Type} (e : α → Option β) (f : β → Except ε γ) (g : α → γ) (l : List α)
    (h : ∀ a ∈ l, ∀ x, e a = some x → f x = .ok (g a)) :
    (l.filterMap e).mapM f = .ok ((l.filter fun a => (e a).isSome).map g) := by
  induction l with
  | nil => rfl
  | cons a as ih =>
    have ih' := ih fun b hb => h b (List.mem_cons_of_mem _ hb)
    cases hea : e a with
    | none => simpa only [List.filterMap_cons, List.filter_cons, hea, Option.isSome_none, Bool.false_eq_true, if_false] using ih'
    | some x =>
      simp only [List.filterMap_cons, List.filter_cons, hea, Option.isSome_some, if_true, List.mapM_cons, h a List.mem_cons_self x hea, ih',
        bind, Except.bind, pure, Except.pure, List.map_cons]

theorem mapM_ok_of_forall {α β ε : Type} (f : α → Except ε β) (g : α → β) (l : List α) (h : ∀ a ∈ l, f a = .ok (g a)) :
    l.mapM f = .ok (l.map g) := by
  induction l with
  | nil => rfl
  | cons a as ih => rw [List.mapM_cons, h a mem_cons_self, ih fun b hb => h b (mem_cons_of_mem _ hb)]; rfl

theorem mapM_mapM_ok {α β γ ε : Type} {f : α → Except ε β} {g : β → Except ε γ} {k : α → γ} :
    ∀ {l : List α} {res : List β}, l.mapM f = .ok res → (∀ a ∈ l, ∀ b, f a = .ok b → g b = .ok (k a)) →
      res.mapM g = .ok (l.map k)
  | [], _, h, _ => by cases h; rfl
  | a :: l, _, h, hg => by
    rw [List.mapM_cons, bind_eq_ok] at h
    obtain ⟨b, hb, h⟩ := h
    obtain ⟨bs, hbs, h⟩ := bind_eq_ok.1 h
    cases h
    rw [List.mapM_cons, hg a List.mem_cons_self b hb, mapM_mapM_ok hbs fun a' ha' => hg a' (List.mem_cons_of_mem _ ha')]
    rfl

end Pyhf
