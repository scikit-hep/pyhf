import PyhfProofs.Lemmas.CombineLocal
import PyhfProofs.Lemmas.Find
import Mathlib.Data.List.Perm.Basic
/-!
# Combination of workspaces with disjoint channels — additivity of the main likelihood

Each operand is a `PartModel` of the combination (`CombineLocal.lean`), so every channel has in the combined model `m` the rates it
has in its operand (`RatesLocal`); `m.cfg.channels` is the merge of the operands' sorted channel lists, so the rates and the
Poisson terms of `m` are a permutation of those of `m₁` and `m₂` together (`expected_perm`, `mainTerms_perm`), and over ℝ, with
the observations laid out per channel, the main log-likelihoods add.  Parameters are identified by name (`ParAgree`; `pullPar`
is the assignment of an operand induced by one of `m`).  Nothing is assumed about `s.parameters`: the declarative rates depend on
the parameter sets only through `byName`.

**Side conditions and why**
* `binwiseOK mᵢ`, `singularCovers mᵢ` (the two bin-wise conditions of C01 that construction does not check): they make every
  read of a bin-wise parameter lie inside its slice; `ParAgree` only speaks about components inside the slice.
* `NoSharedStaterror m₁ m₂` is **necessary** for identification by name: a shared staterror gets one parameter set over the
  declaring channels of *both* operands, component `offset + b` with the offset counting the preceding declaring channels in the
  merged channel order (`CombineExample`); `combine_mainLogpdf_general` states that case with the hypothesis in offset form
  (`BinwiseAgree`).  A shared *shapesys* name is impossible in an accepted combination (`noSharedBinwise_of_built`).
* observations: `(obs c).length = nbins c` for every channel (otherwise the flat zip misaligns).

**Not covered**: the constraint part of the likelihood of the combination (it is *not* additive: shared constrained
parameters are constrained once), and the relation between `s.parameters` and the operands' measurement configurations.
-/
set_option linter.unusedSectionVars false
namespace Pyhf.Combine
open Pyhf.PermInv

/-! ## per-channel rates and Poisson terms -/
section
variable {K : Type} [Add K] [Sub K] [Mul K] [Div K] [Neg K] [OfNat K 0] [OfNat K 1]
  [OfScientific K] [LT K] [LE K] [DecidableLT K] [DecidableLE K] [BEq K]

/-- the expected rates of the bins of one channel (descriptor: name and position) -/
def chanRates (P : Prim K) (m : Model K) (par : Nat → K) (ch : Chan) : List K :=
  (List.range (m.cfg.nbOf ch.1)).map (D.binRate P m par ch)

/-- the same, the channel being given by name only -/
def ratesOf (P : Prim K) (m : Model K) (par : Nat → K) (c : String) : List K :=
  chanRates P m par (c, m.cfg.channels.idxOf c)

theorem chanRates_length (P : Prim K) (m : Model K) (par : Nat → K) (ch : Chan) :
    (chanRates P m par ch).length = m.cfg.nbOf ch.1 := by simp [chanRates]

theorem expected_by_name (P : Prim K) (m : Model K) (par : Nat → K) (hn : m.cfg.channels.Nodup) :
    D.expected P m par = m.cfg.channels.flatMap (ratesOf P m par) := by
  show m.cfg.channels.zipIdx.flatMap (chanRates P m par) = _
  rw [zipIdx_of_nodup _ hn, List.flatMap_map]
  rfl

def mainTerms (P : Prim K) (L : LogPrim K) (m : Model K) (par : Nat → K) (maindata : List K) : List K :=
  (maindata.zip (D.expected P m par)).map fun (d, r) => L.lpois d r

/-- the main (Poisson) part of the declarative log-likelihood — `mainLogpdfT` with `D.expected` for `expectedActual` -/
def mainLogpdfD (P : Prim K) (L : LogPrim K) (m : Model K) (par : Nat → K) (maindata : List K) : K :=
  sumK (mainTerms P L m par maindata)

/-- main data laid out per channel: `obs c` are the observed counts of channel `c` -/
def mainData (m : Model K) (obs : String → List K) : List K := m.cfg.channels.flatMap obs

def chanTerms (P : Prim K) (L : LogPrim K) (m : Model K) (par : Nat → K) (obs : String → List K) (c : String) : List K :=
  ((obs c).zip (ratesOf P m par c)).map fun (d, r) => L.lpois d r

theorem mainTerms_by_name (P : Prim K) (L : LogPrim K) (m : Model K) (par : Nat → K) (obs : String → List K)
    (hn : m.cfg.channels.Nodup) (hobs : ∀ c ∈ m.cfg.channels, (obs c).length = m.cfg.nbOf c) :
    mainTerms P L m par (mainData m obs) = m.cfg.channels.flatMap (chanTerms P L m par obs) := by
  unfold mainTerms mainData
  rw [expected_by_name P m par hn, List.zip_eq_zipWith, zipWith_flatMap, List.map_flatMap]
  · rfl
  · intro c hc
    rw [hobs c hc]; simp [ratesOf, chanRates]

/-! ## one part -/
variable {q q' : String → Bool} {m m₁ m' : Model K}

/-- parameters identified by name: every component of every parameter set of `m₁` has the same value in `(m, par)` -/
def ParAgree (m m₁ : Model K) (par par₁ : Nat → K) : Prop :=
  ∀ n t, (n, t) ∈ m₁.cfg.modifiers → ∀ j, j < psize m₁ n → byName m par n j = byName m₁ par₁ n j

def BinwiseInside (q : String → Bool) (m m₁ : Model K) : Prop :=
  ∀ n t, (t = .shapesys ∨ t = .staterror) → (n, t) ∈ m₁.cfg.modifiers → NotOutside q m n t

theorem PartModel.mem_channels (h : PartModel q m m₁) {c : String} :
    c ∈ m₁.cfg.channels ↔ c ∈ m.cfg.channels ∧ q c = true := by rw [h.channels, List.mem_filter]

theorem PartModel.nodup (h : PartModel q m m₁) : m.cfg.channels.Nodup := by rw [h.cfg]; exact canon_nodup _
theorem PartModel.nodup₁ (h : PartModel q m m₁) : m₁.cfg.channels.Nodup := by rw [h.cfg₁]; exact canon_nodup _

def RatesLocal (P : Prim K) (m m₁ : Model K) (par par₁ : Nat → K) : Prop :=
  ∀ c ∈ m₁.cfg.channels, ratesOf P m par c = ratesOf P m₁ par₁ c

theorem ratesLocal_of_binRate (P : Prim K) (h : PartModel q m m₁) (par par₁ : Nat → K)
    (hb : ∀ c ∈ m₁.cfg.channels, q c = true → ∀ b, b < m₁.cfg.nbOf c →
      D.binRate P m par (c, m.cfg.channels.idxOf c) b = D.binRate P m₁ par₁ (c, m₁.cfg.channels.idxOf c) b) :
    RatesLocal P m m₁ par par₁ := by
  intro c hc
  have hq := (h.mem_channels.mp hc).2
  unfold ratesOf chanRates
  rw [← h.nbOf c hq]
  exact List.map_congr_left fun b hb' => hb c hc hq b (List.mem_range.mp hb')

/-- **per-channel locality, whole channels**, parameters identified by name, no bin-wise constrained modifier of the
part declared outside it -/
theorem ratesLocal_of_agree (P : Prim K) (h : PartModel q m m₁) (hs : InSlice m₁) (par par₁ : Nat → K)
    (hout : BinwiseInside q m m₁) (hpar : ParAgree m m₁ par par₁) : RatesLocal P m m₁ par par₁ :=
  ratesLocal_of_binRate P h par par₁ fun c hc hq b hb =>
    binRate_local P h hs par par₁ c hq _ _
      (mem_zipIdx_idxOf _ c (h.mem_channels.mp hc).1) (mem_zipIdx_idxOf _ c hc) b hb
      hout hpar

/-- by-name agreement on the parameter sets of the modifiers that are not bin-wise constrained -/
def ParAgreeNB (m m₁ : Model K) (par par₁ : Nat → K) : Prop :=
  ∀ n t, (n, t) ∈ m₁.cfg.modifiers → t ≠ .shapesys → t ≠ .staterror →
    ∀ j, j < psize m₁ n → byName m par n j = byName m₁ par₁ n j

/-- agreement of the bin-wise constrained parameter sets on the components each model reads: bin `b` of channel `c`
reads component `offset + b`, the offset being each model's own count of the components consumed by the declaring
channels that precede `c` -/
def BinwiseAgree (m m₁ : Model K) (par par₁ : Nat → K) : Prop :=
  ∀ n t, (t = .shapesys ∨ t = .staterror) → (n, t) ∈ m₁.cfg.modifiers →
    ∀ c ∈ m₁.cfg.channels, ∀ b, b < m₁.cfg.nbOf c →
      byName m par n (offAt (compCounts m n t) (m.cfg.channels.idxOf c) + b) =
        byName m₁ par₁ n (offAt (compCounts m₁ n t) (m₁.cfg.channels.idxOf c) + b)

/-- **per-channel locality, whole channels, general case** (bin-wise constrained names may be shared with channels
outside the part) -/
theorem ratesLocal_of_offsets (P : Prim K) (h : PartModel q m m₁) (hs : InSlice m₁) (par par₁ : Nat → K)
    (hpar : ParAgreeNB m m₁ par par₁) (hbw : BinwiseAgree m m₁ par par₁) : RatesLocal P m m₁ par par₁ :=
  ratesLocal_of_binRate P h par par₁ fun c hc hq b hb =>
    binRate_local_offsets P h hs par par₁ c hq _ _ (mem_zipIdx_idxOf _ c hc) b hb hpar
      (fun n t ht hmem => hbw n t ht hmem c hc b hb)

theorem notOutside_of_other (h' : PartModel q' m m') (hqq : ∀ c, q c = false → q' c = true)
    (n : String) (t : ModType) (hn : (n, t) ∉ m'.cfg.modifiers) : NotOutside q m n t := by
  intro c sm hc
  cases hd : declOn m n t sm c with
  | false => rfl
  | true =>
    exfalso; apply hn
    unfold declOn at hd
    cases hf : findSample m.spec c sm with
    | none => rw [hf] at hd; cases hd
    | some x =>
      rw [hf] at hd
      rw [h'.cfg₁]
      exact findMod_mem_modifiers _ c sm x (by rw [h'.find c (hqq c hc) sm]; exact hf) n t hd

/-! ## two parts with disjoint channel names -/

/-- `s` lists the channels of `s₁` followed by those of `s₂` and no channel name occurs on both sides — what
`Workspace.combine` produces for disjoint channel sets (`C16.join_none_disjoint_is_append`).  Nothing is assumed
about `s.parameters`. -/
structure Comb (s s₁ s₂ : Spec K) : Prop where
  chans : s.channels = s₁.channels ++ s₂.channels
  disj : ∀ a ∈ s₁.channels, ∀ b ∈ s₂.channels, a.name ≠ b.name

def inL (s₁ : Spec K) (c : String) : Bool := decide (c ∈ s₁.channels.map (·.name))

variable {s s₁ s₂ : Spec K}

theorem Comb.partL (h : Comb s s₁ s₂) : Part (inL s₁) s s₁ := by
  unfold Part
  rw [h.chans, List.filter_append]
  have e1 : s₁.channels.filter (fun ch => inL s₁ ch.name) = s₁.channels :=
    List.filter_eq_self.mpr (fun a ha => by simp only [inL, decide_eq_true_eq]; exact List.mem_map.mpr ⟨a, ha, rfl⟩)
  have e2 : s₂.channels.filter (fun ch => inL s₁ ch.name) = [] :=
    List.filter_eq_nil_iff.mpr (fun b hb => by
      simp only [inL, decide_eq_true_eq, List.mem_map, not_exists, not_and]
      intro a ha heq; exact h.disj a ha b hb heq)
  rw [e1, e2, List.append_nil]

theorem Comb.partR (h : Comb s s₁ s₂) : Part (fun c => !inL s₁ c) s s₂ := by
  unfold Part
  rw [h.chans, List.filter_append]
  have e1 : s₁.channels.filter (fun ch => !inL s₁ ch.name) = [] :=
    List.filter_eq_nil_iff.mpr (fun a ha => by
      simp only [inL, Bool.not_eq_true', decide_eq_false_iff_not, not_not]; exact List.mem_map.mpr ⟨a, ha, rfl⟩)
  have e2 : s₂.channels.filter (fun ch => !inL s₁ ch.name) = s₂.channels :=
    List.filter_eq_self.mpr (fun b hb => by
      simp only [inL, Bool.not_eq_true', decide_eq_false_iff_not, List.mem_map, not_exists, not_and]
      intro a ha heq; exact h.disj a ha b hb heq)
  rw [e1, e2, List.nil_append]

/-- three models on a combined specification and its two operands: each carries the channel summary of its own
specification (as `buildModel` returns it) and the settings are the same -/
structure CombModel (m m₁ m₂ : Model K) : Prop where
  comb : Comb m.spec m₁.spec m₂.spec
  cfg : m.cfg = mkConfig m.spec
  cfg₁ : m₁.cfg = mkConfig m₁.spec
  cfg₂ : m₂.cfg = mkConfig m₂.spec
  settings₁ : m₁.settings = m.settings
  settings₂ : m₂.settings = m.settings

variable {m m₁ m₂ : Model K}

theorem CombModel.left (h : CombModel m m₁ m₂) : PartModel (inL m₁.spec) m m₁ :=
  ⟨h.comb.partL, h.cfg, h.cfg₁, h.settings₁⟩

theorem CombModel.right (h : CombModel m m₁ m₂) : PartModel (fun c => !inL m₁.spec c) m m₂ :=
  ⟨h.comb.partR, h.cfg, h.cfg₂, h.settings₂⟩

theorem CombModel.channels_perm (h : CombModel m m₁ m₂) :
    m.cfg.channels.Perm (m₁.cfg.channels ++ m₂.cfg.channels) := by
  rw [h.left.channels, h.right.channels]
  exact (List.filter_append_perm _ _).symm

def NoSharedBinwise (m₁ m₂ : Model K) : Prop :=
  ∀ n t, (t = .shapesys ∨ t = .staterror) → (n, t) ∈ m₁.cfg.modifiers → (n, t) ∉ m₂.cfg.modifiers

theorem CombModel.inside_left (h : CombModel m m₁ m₂) (hsh : NoSharedBinwise m₁ m₂) :
    BinwiseInside (inL m₁.spec) m m₁ := by
  intro n t ht hmem
  exact notOutside_of_other h.right (fun c hc => by simp [hc]) n t (hsh n t ht hmem)

theorem CombModel.inside_right (h : CombModel m m₁ m₂) (hsh : NoSharedBinwise m₁ m₂) :
    BinwiseInside (fun c => !inL m₁.spec c) m m₂ := by
  intro n t ht hmem
  exact notOutside_of_other h.left (fun c hc => by simpa using hc) n t (fun h1 => hsh n t ht h1 hmem)

theorem flatMap_perm_parts {β : Type} (h : CombModel m m₁ m₂) (F F₁ F₂ : String → List β)
    (e₁ : ∀ c ∈ m₁.cfg.channels, F c = F₁ c) (e₂ : ∀ c ∈ m₂.cfg.channels, F c = F₂ c) :
    (m.cfg.channels.flatMap F).Perm (m₁.cfg.channels.flatMap F₁ ++ m₂.cfg.channels.flatMap F₂) := by
  have := (h.channels_perm).flatMap_right F
  rw [List.flatMap_append] at this
  rw [← List.flatMap_congr e₁, ← List.flatMap_congr e₂]
  exact this

theorem expected_perm (P : Prim K) (h : CombModel m m₁ m₂) (par par₁ par₂ : Nat → K)
    (r₁ : RatesLocal P m m₁ par par₁) (r₂ : RatesLocal P m m₂ par par₂) :
    (D.expected P m par).Perm (D.expected P m₁ par₁ ++ D.expected P m₂ par₂) := by
  rw [expected_by_name P m par h.left.nodup, expected_by_name P m₁ par₁ h.left.nodup₁,
    expected_by_name P m₂ par₂ h.right.nodup₁]
  exact flatMap_perm_parts h _ _ _ r₁ r₂

theorem mainTerms_perm (P : Prim K) (L : LogPrim K) (h : CombModel m m₁ m₂) (par par₁ par₂ : Nat → K)
    (r₁ : RatesLocal P m m₁ par par₁) (r₂ : RatesLocal P m m₂ par par₂)
    (obs : String → List K) (hobs : ∀ c ∈ m.cfg.channels, (obs c).length = m.cfg.nbOf c) :
    (mainTerms P L m par (mainData m obs)).Perm
      (mainTerms P L m₁ par₁ (mainData m₁ obs) ++ mainTerms P L m₂ par₂ (mainData m₂ obs)) := by
  have hobs₁ : ∀ c ∈ m₁.cfg.channels, (obs c).length = m₁.cfg.nbOf c := fun c hc => by
    obtain ⟨hcm, hq⟩ := h.left.mem_channels.mp hc
    rw [h.left.nbOf c hq]; exact hobs c hcm
  have hobs₂ : ∀ c ∈ m₂.cfg.channels, (obs c).length = m₂.cfg.nbOf c := fun c hc => by
    obtain ⟨hcm, hq⟩ := h.right.mem_channels.mp hc
    rw [h.right.nbOf c hq]; exact hobs c hcm
  rw [mainTerms_by_name P L m par obs h.left.nodup hobs, mainTerms_by_name P L m₁ par₁ obs h.left.nodup₁ hobs₁,
    mainTerms_by_name P L m₂ par₂ obs h.right.nodup₁ hobs₂]
  exact flatMap_perm_parts h _ _ _ (fun c hc => by unfold chanTerms; rw [r₁ c hc])
    (fun c hc => by unfold chanTerms; rw [r₂ c hc])

/-! ## what `buildModel` provides -/

theorem scalar_size_of_built (P : Prim K) (s : Spec K) (st : Settings K) (m : Model K) (hb : Built P s st m)
    (n : String) (t : ModType) (hmem : (n, t) ∈ m.cfg.modifiers)
    (ht : t = .histosys ∨ t = .lumi ∨ t = .normfactor ∨ t = .normsys) : psize m n = 1 := by
  rw [hb.cfg_eq] at hmem
  obtain ⟨c, hc', sm, hsm, x, md, hfs, hfm⟩ := declared_of_mem s hb.no_duplicates n t hmem
  obtain ⟨x', md', _, hlen⟩ := selection_length_of_cell P s _ m.ps hb.params t
    (by rcases ht with rfl | rfl | rfl | rfl <;> decide) n x md
    ((mem_declaringCells s _ t n x md).mpr ⟨c, hc', sm, hsm, hfs, hmem, hfm⟩)
  rw [selection_length, ← hb.slices_eq] at hlen
  rw [psize, hlen]
  rcases ht with rfl | rfl | rfl | rfl <;> rfl

theorem inSlice_of_built {P : Prim K} {s : Spec K} {st : Settings K} {m : Model K} (hb : buildModel P s st = .ok m)
    (hbin : binwiseOK m = true) (hcov : singularCovers m = true) : InSlice m :=
  ⟨fun n t hmem ht => by
    rw [scalar_size_of_built P s st m (buildModel_built P s st m hb) n t hmem ht]; exact Nat.one_pos, hbin, hcov⟩

theorem combModel_of_built {P : Prim K} {s s₁ s₂ : Spec K} {st : Settings K} {m m₁ m₂ : Model K}
    (hb : buildModel P s st = .ok m) (hb₁ : buildModel P s₁ st = .ok m₁) (hb₂ : buildModel P s₂ st = .ok m₂)
    (hc : Comb s s₁ s₂) : CombModel m m₁ m₂ := by
  have B := buildModel_built P s st m hb
  have B₁ := buildModel_built P s₁ st m₁ hb₁
  have B₂ := buildModel_built P s₂ st m₂ hb₂
  exact {
    comb := by rw [B.spec_eq, B₁.spec_eq, B₂.spec_eq]; exact hc
    cfg := by rw [B.cfg_eq, B.spec_eq]
    cfg₁ := by rw [B₁.cfg_eq, B₁.spec_eq]
    cfg₂ := by rw [B₂.cfg_eq, B₂.spec_eq]
    settings₁ := by rw [B.settings_eq, B₁.settings_eq]
    settings₂ := by rw [B.settings_eq, B₂.settings_eq] }

/-! ## the operand's parameters read off the combined model by name -/

def covers (k : Nat) (e : String × Nat × Nat) : Bool := decide (e.2.1 ≤ k) && decide (k < e.2.2)

/-- **parameters identified by name**: the parameter assignment of the operand `m₁` induced by an assignment `par` of
the combined model `m` — flat index `k` of `m₁` lies in the slice of one parameter set of `m₁`; its value is the
component of the same *name* and position in `m` -/
def pullPar (m m₁ : Model K) (par : Nat → K) : Nat → K := fun k =>
  match m₁.slices.find? (covers k) with
  | some e => byName m par e.1 (k - e.2.1)
  | none => 0

theorem byName_pullPar (m m₁ : Model K) (hsl : m₁.slices = parSlices m₁.ps) (par : Nat → K) (n : String) (j : Nat)
    (hj : j < psize m₁ n) : byName m₁ (pullPar m m₁ par) n j = byName m par n j := by
  unfold psize sliceOf at hj
  cases hf : m₁.slices.find? (·.1 == n) with
  | none => rw [hf] at hj; simp at hj
  | some e =>
    rw [hf] at hj
    have hmem : e ∈ m₁.slices := List.mem_of_find?_eq_some hf
    have hname : e.1 = n := by simpa using List.find?_some hf
    have hcov : covers (e.2.1 + j) e = true := by
      simp only [covers, Bool.and_eq_true, decide_eq_true_eq]
      exact ⟨Nat.le_add_right _ _, Nat.add_lt_of_lt_sub' hj⟩
    -- consecutive intervals: at most one slice covers a flat index
    have hu : ∀ a ∈ m₁.slices, ∀ b ∈ m₁.slices,
        covers (e.2.1 + j) a = true → covers (e.2.1 + j) b = true → a = b := by
      rw [hsl]
      have hno : ∀ {a b : String × Nat × Nat}, a.2.2 ≤ b.2.1 →
          ¬(covers (e.2.1 + j) a = true ∧ covers (e.2.1 + j) b = true) := fun hab ⟨ha, hb⟩ => by
        simp only [covers, Bool.and_eq_true, decide_eq_true_eq] at ha hb
        exact absurd (Nat.lt_of_lt_of_le ha.2 (Nat.le_trans hab hb.1)) (Nat.lt_irrefl _)
      have hp := (mkSlices_go_ordered ((m₁.ps.map fun p => (p.name, p.n))) 0).1
      exact List.Pairwise.forall_of_forall_of_flip (fun _ _ _ _ => rfl)
        (hp.imp fun hab ha hb => absurd ⟨ha, hb⟩ (hno hab)) (hp.imp fun hab ha hb => absurd ⟨hb, ha⟩ (hno hab))
    have hfind := List.find?_eq_some_of_unique hmem hcov fun b hb hpb => hu b hb e hmem hpb hcov
    have hs : sliceOf m₁.slices n = e.2 := by unfold sliceOf; rw [hf]; rfl
    unfold byName
    rw [hs]
    show pullPar m m₁ par (e.2.1 + j) = _
    unfold pullPar
    simp only [hfind, byName, hname, Nat.add_sub_cancel_left]

end

/-! ## observations given as a list of `(channel name, counts)` (`Workspace.data`) -/
section
variable {K : Type}

/-- the observed counts of channel `c` in an observation list (first entry of that name; none: empty) -/
def obsOf (ol : List (String × List K)) (c : String) : List K := ((ol.find? (·.1 == c)).map (·.2)).getD []

/-- `Workspace.data(model, include_auxdata=False)` is the per-channel layout used here -/
theorem workspaceData_main (m : Model K) (ol : List (String × List K)) :
    workspaceData m ol false = mainData m (obsOf ol) := by
  simp only [workspaceData, Bool.false_eq_true, if_false, List.append_nil]
  rfl

theorem obsOf_append_left (ol₁ ol₂ : List (String × List K)) (c : String) (h : c ∈ ol₁.map (·.1)) :
    obsOf (ol₁ ++ ol₂) c = obsOf ol₁ c := by
  unfold obsOf
  rw [List.find?_append]
  obtain ⟨e, he, hec⟩ := List.mem_map.mp h
  cases hf : ol₁.find? (·.1 == c) with
  | none => rw [List.find?_eq_none] at hf; exact absurd (by simpa using hec) (hf e he)
  | some a => rfl

theorem obsOf_append_right (ol₁ ol₂ : List (String × List K)) (c : String) (h : c ∉ ol₁.map (·.1)) :
    obsOf (ol₁ ++ ol₂) c = obsOf ol₂ c := by
  unfold obsOf
  rw [List.find?_append]
  have : ol₁.find? (·.1 == c) = none := by
    rw [List.find?_eq_none]
    intro e he hec
    exact h (List.mem_map.mpr ⟨e, he, by simpa using hec⟩)
  rw [this]; rfl

end

/-! ## accepted combinations: locality for the two operands -/
section
variable {K : Type} [Add K] [Sub K] [Mul K] [Div K] [Neg K] [OfNat K 0] [OfNat K 1]
  [OfScientific K] [LT K] [LE K] [DecidableLT K] [DecidableLE K] [BEq K]

/-- no staterror name is listed by both operands (a shapesys name never is: `shapesysReuse`) -/
def NoSharedStaterror (m₁ m₂ : Model K) : Prop :=
  ∀ n, (n, ModType.staterror) ∈ m₁.cfg.modifiers → (n, ModType.staterror) ∉ m₂.cfg.modifiers

/-- in an *accepted* combination a shapesys name cannot occur on both sides, so only staterror names need the
side condition -/
theorem noSharedBinwise_of_built {P : Prim K} {s : Spec K} {st : Settings K} {m m₁ m₂ : Model K}
    (hb : buildModel P s st = .ok m) (h : CombModel m m₁ m₂) (hst : NoSharedStaterror m₁ m₂) : NoSharedBinwise m₁ m₂ := by
  have hb := buildModel_built P s st m hb
  intro n t ht h1 h2
  rcases ht with rfl | rfl
  · rw [h.cfg₁, mem_cfg_modifiers] at h1
    rw [h.cfg₂, mem_cfg_modifiers] at h2
    obtain ⟨ch, hch, x, hx, md, hmd, hn, hty⟩ := h1
    obtain ⟨ch', hch', x', hx', md', hmd', hn', hty'⟩ := h2
    have hc := h.comb.chans
    rw [hb.spec_eq] at hc
    have hmem : ch ∈ s.channels := by rw [hc]; exact List.mem_append_left _ hch
    have hmem' : ch' ∈ s.channels := by rw [hc]; exact List.mem_append_right _ hch'
    obtain ⟨heq, _⟩ := shapesys_unique s hb.no_shapesys_reuse n ch ch' hmem hmem' x x' hx hx'
      ⟨md, hmd, hty, hn⟩ ⟨md', hmd', hty', hn'⟩
    exact h.comb.disj ch hch ch' hch' (by rw [heq])
  · exact hst n h1 h2

/-- **Per-channel locality, left operand.**  `s` = channels of `s₁` followed by channels of `s₂`, disjoint
channel names; `m, m₁, m₂` built from `s, s₁, s₂` with the same settings.  For a channel `c` of `s₁` (position `i` in
`m`, `i₁` in `m₁`) and a bin `b` of it, the declarative rate in the combined model equals the rate in `m₁`, provided
the two parameter accessors agree by name on every component of every parameter set of `m₁`, `m₁` satisfies the two
unchecked bin-wise conditions of C01, and no staterror name is shared between the operands. -/
theorem combine_binRate_left (P : Prim K) (s s₁ s₂ : Spec K) (st : Settings K) (m m₁ m₂ : Model K)
    (hb : buildModel P s st = .ok m) (hb₁ : buildModel P s₁ st = .ok m₁) (hb₂ : buildModel P s₂ st = .ok m₂)
    (hc : Comb s s₁ s₂) (hbin₁ : binwiseOK m₁ = true) (hcov₁ : singularCovers m₁ = true)
    (hst : NoSharedStaterror m₁ m₂) (par par₁ : Nat → K) (hp₁ : ParAgree m m₁ par par₁)
    (c : String) (i i₁ : Nat) (hi : (c, i) ∈ m.chans) (hi₁ : (c, i₁) ∈ m₁.chans) (b : Nat) (hbb : b < m₁.cfg.nbOf c) :
    D.binRate P m par (c, i) b = D.binRate P m₁ par₁ (c, i₁) b := by
  have h := combModel_of_built hb hb₁ hb₂ hc
  have hq := (h.left.mem_channels.mp (List.mem_of_getElem? (List.mem_zipIdx_iff_getElem?.mp hi₁))).2
  exact binRate_local P h.left (inSlice_of_built hb₁ hbin₁ hcov₁) par par₁ c hq i i₁ hi hi₁ b hbb
    (h.inside_left (noSharedBinwise_of_built hb h hst)) hp₁

/-- **Per-channel locality, right operand.** -/
theorem combine_binRate_right (P : Prim K) (s s₁ s₂ : Spec K) (st : Settings K) (m m₁ m₂ : Model K)
    (hb : buildModel P s st = .ok m) (hb₁ : buildModel P s₁ st = .ok m₁) (hb₂ : buildModel P s₂ st = .ok m₂)
    (hc : Comb s s₁ s₂) (hbin₂ : binwiseOK m₂ = true) (hcov₂ : singularCovers m₂ = true)
    (hst : NoSharedStaterror m₁ m₂) (par par₂ : Nat → K) (hp₂ : ParAgree m m₂ par par₂)
    (c : String) (i i₂ : Nat) (hi : (c, i) ∈ m.chans) (hi₂ : (c, i₂) ∈ m₂.chans) (b : Nat) (hbb : b < m₂.cfg.nbOf c) :
    D.binRate P m par (c, i) b = D.binRate P m₂ par₂ (c, i₂) b := by
  have h := combModel_of_built hb hb₁ hb₂ hc
  have hq := (h.right.mem_channels.mp (List.mem_of_getElem? (List.mem_zipIdx_iff_getElem?.mp hi₂))).2
  exact binRate_local P h.right (inSlice_of_built hb₂ hbin₂ hcov₂) par par₂ c hq i i₂ hi hi₂ b hbb
    (h.inside_right (noSharedBinwise_of_built hb h hst)) hp₂

/-- what the additivity theorems use of three accepted models with parameters identified by name -/
theorem ratesLocal_of_built {P : Prim K} {s s₁ s₂ : Spec K} {st : Settings K} {m m₁ m₂ : Model K}
    (hb : buildModel P s st = .ok m) (hb₁ : buildModel P s₁ st = .ok m₁) (hb₂ : buildModel P s₂ st = .ok m₂)
    (hc : Comb s s₁ s₂) (hbin₁ : binwiseOK m₁ = true) (hcov₁ : singularCovers m₁ = true)
    (hbin₂ : binwiseOK m₂ = true) (hcov₂ : singularCovers m₂ = true)
    (hst : NoSharedStaterror m₁ m₂) {par par₁ par₂ : Nat → K}
    (hp₁ : ParAgree m m₁ par par₁) (hp₂ : ParAgree m m₂ par par₂) :
    CombModel m m₁ m₂ ∧ RatesLocal P m m₁ par par₁ ∧ RatesLocal P m m₂ par par₂ := by
  have h := combModel_of_built hb hb₁ hb₂ hc
  have hsh := noSharedBinwise_of_built hb h hst
  exact ⟨h, ratesLocal_of_agree P h.left (inSlice_of_built hb₁ hbin₁ hcov₁) par par₁ (h.inside_left hsh) hp₁,
    ratesLocal_of_agree P h.right (inSlice_of_built hb₂ hbin₂ hcov₂) par par₂ (h.inside_right hsh) hp₂⟩

theorem parAgree_pullPar_of_built {P : Prim K} {s₁ : Spec K} {st : Settings K} (m : Model K) {m₁ : Model K}
    (hb₁ : buildModel P s₁ st = .ok m₁) (par : Nat → K) : ParAgree m m₁ par (pullPar m m₁ par) :=
  fun n _ _ j hj => (byName_pullPar m m₁ (buildModel_built P s₁ st m₁ hb₁).slices_eq par n j hj).symm

/-- the channel order of the combination: sorted, and the operands' channel lists are its sub-lists selected by
membership in `s₁` — i.e. it is the merge of the two sorted lists -/
theorem channels_merge (P : Prim K) (s s₁ s₂ : Spec K) (st : Settings K) (m m₁ m₂ : Model K)
    (hb : buildModel P s st = .ok m) (hb₁ : buildModel P s₁ st = .ok m₁) (hb₂ : buildModel P s₂ st = .ok m₂)
    (hc : Comb s s₁ s₂) :
    m.cfg.channels.Pairwise (· < ·) ∧
    m₁.cfg.channels = m.cfg.channels.filter (fun c => decide (c ∈ s₁.channels.map (·.name))) ∧
    m₂.cfg.channels = m.cfg.channels.filter (fun c => !decide (c ∈ s₁.channels.map (·.name))) ∧
    m.cfg.channels.Perm (m₁.cfg.channels ++ m₂.cfg.channels) := by
  have h := combModel_of_built hb hb₁ hb₂ hc
  have e := (buildModel_built P s₁ st m₁ hb₁).spec_eq
  refine ⟨by rw [h.cfg]; exact canon_strictly_sorted _, ?_, ?_, h.channels_perm⟩
  · rw [h.left.channels, e]; rfl
  · rw [h.right.channels, e]; rfl

end

/-! ## additivity of the main log-likelihood, over ℝ -/

theorem logpdfD_split (P : Prim ℝ) (L : LogPrim ℝ) (m : Model ℝ) (par : Nat → ℝ) (data : List ℝ) :
    D.logpdf P L m par data = mainLogpdfD P L m par (data.take m.cfg.nmain) +
      sumK ((D.constraintTemplate m par (data.drop m.cfg.nmain)).map (termLog L)) := by
  unfold D.logpdf D.template mainLogpdfD mainTerms
  simp only [List.map_append, List.map_map, sumK_real, List.sum_append]
  rfl

/-- under the hypotheses of theorem R (C01) the code's `mainlogpdf` is the declarative one -/
theorem mainLogpdfT_eq_D (L : LogPrim ℝ) {s : Spec ℝ} {st : Settings ℝ} {m : Model ℝ}
    (hb : buildModel realPrim s st = .ok m) (he : Extra m) (par : Nat → ℝ) (d : List ℝ) :
    mainLogpdfT realPrim L m par d = mainLogpdfD realPrim L m par d := by
  unfold mainLogpdfT mainLogpdfD mainTerms
  rw [expectedActual_eq_D m (shape_of_build hb) he par]

theorem mainLogpdfD_add (P : Prim ℝ) (L : LogPrim ℝ) {m m₁ m₂ : Model ℝ} (h : CombModel m m₁ m₂)
    (par par₁ par₂ : Nat → ℝ) (r₁ : RatesLocal P m m₁ par par₁) (r₂ : RatesLocal P m m₂ par par₂)
    (obs : String → List ℝ) (hobs : ∀ c ∈ m.cfg.channels, (obs c).length = m.cfg.nbOf c) :
    mainLogpdfD P L m par (mainData m obs) =
      mainLogpdfD P L m₁ par₁ (mainData m₁ obs) + mainLogpdfD P L m₂ par₂ (mainData m₂ obs) := by
  unfold mainLogpdfD
  rw [sumK_real, sumK_real, sumK_real, ← List.sum_append]
  exact (mainTerms_perm P L h par par₁ par₂ r₁ r₂ obs hobs).sum_eq

/-- **The main likelihood of the combination is the product of the two main likelihoods (log scale).**
For every log-density primitive `L`, every parameter assignment `par` of the combined model and observations laid out
per channel (`obs c` = the counts of channel `c`, one per bin): the sum of the Poisson terms over all bins of `m`
equals the sum over `m₁` plus the sum over `m₂`, the operands being evaluated at *any* assignments that agree with
`par` by name — in particular at `pullPar m mᵢ par` (`parAgree_pullPar_of_built`). -/
theorem combine_mainLogpdf_of_agree (P : Prim ℝ) (L : LogPrim ℝ) (s s₁ s₂ : Spec ℝ) (st : Settings ℝ) (m m₁ m₂ : Model ℝ)
    (hb : buildModel P s st = .ok m) (hb₁ : buildModel P s₁ st = .ok m₁) (hb₂ : buildModel P s₂ st = .ok m₂)
    (hc : Comb s s₁ s₂) (hbin₁ : binwiseOK m₁ = true) (hcov₁ : singularCovers m₁ = true)
    (hbin₂ : binwiseOK m₂ = true) (hcov₂ : singularCovers m₂ = true)
    (hst : NoSharedStaterror m₁ m₂) (par par₁ par₂ : Nat → ℝ)
    (hp₁ : ParAgree m m₁ par par₁) (hp₂ : ParAgree m m₂ par par₂)
    (obs : String → List ℝ) (hobs : ∀ c ∈ m.cfg.channels, (obs c).length = m.cfg.nbOf c) :
    mainLogpdfD P L m par (mainData m obs) =
      mainLogpdfD P L m₁ par₁ (mainData m₁ obs) + mainLogpdfD P L m₂ par₂ (mainData m₂ obs) := by
  obtain ⟨h, r₁, r₂⟩ := ratesLocal_of_built hb hb₁ hb₂ hc hbin₁ hcov₁ hbin₂ hcov₂ hst hp₁ hp₂
  exact mainLogpdfD_add P L h par par₁ par₂ r₁ r₂ obs hobs

/-- **general case** (staterror names may be shared between the operands): by-name agreement for the other parameter
sets, agreement of the bin-wise constrained ones on the components each model reads (`BinwiseAgree`) -/
theorem combine_mainLogpdf_general (P : Prim ℝ) (L : LogPrim ℝ) (s s₁ s₂ : Spec ℝ) (st : Settings ℝ) (m m₁ m₂ : Model ℝ)
    (hb : buildModel P s st = .ok m) (hb₁ : buildModel P s₁ st = .ok m₁) (hb₂ : buildModel P s₂ st = .ok m₂)
    (hc : Comb s s₁ s₂) (hbin₁ : binwiseOK m₁ = true) (hcov₁ : singularCovers m₁ = true)
    (hbin₂ : binwiseOK m₂ = true) (hcov₂ : singularCovers m₂ = true)
    (par par₁ par₂ : Nat → ℝ)
    (hp₁ : ParAgreeNB m m₁ par par₁) (hw₁ : BinwiseAgree m m₁ par par₁)
    (hp₂ : ParAgreeNB m m₂ par par₂) (hw₂ : BinwiseAgree m m₂ par par₂)
    (obs : String → List ℝ) (hobs : ∀ c ∈ m.cfg.channels, (obs c).length = m.cfg.nbOf c) :
    mainLogpdfD P L m par (mainData m obs) =
      mainLogpdfD P L m₁ par₁ (mainData m₁ obs) + mainLogpdfD P L m₂ par₂ (mainData m₂ obs) := by
  have h := combModel_of_built hb hb₁ hb₂ hc
  exact mainLogpdfD_add P L h par par₁ par₂
    (ratesLocal_of_offsets P h.left (inSlice_of_built hb₁ hbin₁ hcov₁) par par₁ hp₁ hw₁)
    (ratesLocal_of_offsets P h.right (inSlice_of_built hb₂ hbin₂ hcov₂) par par₂ hp₂ hw₂) obs hobs

/-- **Workspace form.**  Observations given as `(channel, counts)` lists, those of the combination being
the concatenation `ol₁ ++ ol₂` (`Workspace.combine`); main data as `Workspace.data(model, include_auxdata=False)`. -/
theorem combine_mainLogpdf_workspace (P : Prim ℝ) (L : LogPrim ℝ) (s s₁ s₂ : Spec ℝ) (st : Settings ℝ) (m m₁ m₂ : Model ℝ)
    (hb : buildModel P s st = .ok m) (hb₁ : buildModel P s₁ st = .ok m₁) (hb₂ : buildModel P s₂ st = .ok m₂)
    (hc : Comb s s₁ s₂) (hbin₁ : binwiseOK m₁ = true) (hcov₁ : singularCovers m₁ = true)
    (hbin₂ : binwiseOK m₂ = true) (hcov₂ : singularCovers m₂ = true)
    (hst : NoSharedStaterror m₁ m₂) (par : Nat → ℝ)
    (ol₁ ol₂ : List (String × List ℝ))
    (hol₁ : ∀ c ∈ m₁.cfg.channels, c ∈ ol₁.map (·.1)) (hol₂ : ∀ c ∈ m₂.cfg.channels, c ∉ ol₁.map (·.1))
    (hlen₁ : ∀ c ∈ m₁.cfg.channels, (obsOf ol₁ c).length = m₁.cfg.nbOf c)
    (hlen₂ : ∀ c ∈ m₂.cfg.channels, (obsOf ol₂ c).length = m₂.cfg.nbOf c) :
    mainLogpdfD P L m par (workspaceData m (ol₁ ++ ol₂) false) =
      mainLogpdfD P L m₁ (pullPar m m₁ par) (workspaceData m₁ ol₁ false) +
      mainLogpdfD P L m₂ (pullPar m m₂ par) (workspaceData m₂ ol₂ false) := by
  have h := combModel_of_built hb hb₁ hb₂ hc
  have e₁ : workspaceData m₁ ol₁ false = mainData m₁ (obsOf (ol₁ ++ ol₂)) :=
    (workspaceData_main m₁ ol₁).trans
      (List.flatMap_congr fun c hc' => (obsOf_append_left ol₁ ol₂ c (hol₁ c hc')).symm)
  have e₂ : workspaceData m₂ ol₂ false = mainData m₂ (obsOf (ol₁ ++ ol₂)) :=
    (workspaceData_main m₂ ol₂).trans
      (List.flatMap_congr fun c hc' => (obsOf_append_right ol₁ ol₂ c (hol₂ c hc')).symm)
  have hobs : ∀ c ∈ m.cfg.channels, (obsOf (ol₁ ++ ol₂) c).length = m.cfg.nbOf c := by
    intro c hcm
    cases hq : inL m₁.spec c with
    | true =>
      have hc₁ := h.left.mem_channels.mpr ⟨hcm, hq⟩
      rw [obsOf_append_left ol₁ ol₂ c (hol₁ c hc₁), hlen₁ c hc₁, h.left.nbOf c hq]
    | false =>
      have hq' : (!inL m₁.spec c) = true := by simp [hq]
      have hc₂ := h.right.mem_channels.mpr ⟨hcm, hq'⟩
      rw [obsOf_append_right ol₁ ol₂ c (hol₂ c hc₂), hlen₂ c hc₂, h.right.nbOf c hq']
  rw [e₁, e₂, workspaceData_main]
  exact combine_mainLogpdf_of_agree P L s s₁ s₂ st m m₁ m₂ hb hb₁ hb₂ hc hbin₁ hcov₁ hbin₂ hcov₂ hst par _ _
    (parAgree_pullPar_of_built m hb₁ par) (parAgree_pullPar_of_built m hb₂ par) _ hobs

end Pyhf.Combine
