import Mathlib.Analysis.Calculus.Deriv.Basic
import Mathlib.Analysis.Calculus.Deriv.Mul
import Mathlib.Analysis.Calculus.Deriv.Add
import Mathlib.Topology.Algebra.Order.Field
/-! Functions glued from pieces on *closed* regimes.  Because neighbouring regimes share their
breakpoint, a description of `F` by regimes already says that the pieces agree there, and a
description of `D` by the pieces' derivatives says that the slopes agree: nothing else is needed for
`F' = D`. -/
namespace Pyhf
open Set

theorem continuous_of_hasDerivAt {f f' : ℝ → ℝ} (h : ∀ x, HasDerivAt f (f' x) x) : Continuous f :=
  continuous_iff_continuousAt.mpr fun x => (h x).continuousAt

/-- The tree a clipped quantity `g (max N x)` becomes when the comparison is made on tensors: both
`where` branches are guarded once more (`nan` is never selected). -/
theorem clipped_entry {β : Type} (g : ℝ → β) (x N : ℝ) (nan v w : β) (hv : v = g N) (hw : w = g x) :
    (if x < N then if x ≤ N then v else nan else if x ≤ x then w else nan) = g (max N x) := by
  by_cases h : x < N
  · rw [if_pos h, if_pos h.le, max_eq_left h.le, hv]
  · rw [if_neg h, if_pos le_rfl, max_eq_right (not_lt.mp h), hw]

theorem hasDerivAt_glue {F D l r l' r' : ℝ → ℝ} {c : ℝ}
    (hl : ∀ x ≤ c, F x = l x) (hr : ∀ x, c ≤ x → F x = r x)
    (hl' : ∀ x ≤ c, D x = l' x) (hr' : ∀ x, c ≤ x → D x = r' x)
    (dl : ∀ x, HasDerivAt l (l' x) x) (dr : ∀ x, HasDerivAt r (r' x) x) (x : ℝ) :
    HasDerivAt F (D x) x := by
  rcases lt_trichotomy x c with hx | rfl | hx
  · rw [hl' x hx.le]
    refine (dl x).congr_of_eventuallyEq ?_
    filter_upwards [Iio_mem_nhds hx] with y hy using hl y (le_of_lt hy)
  · rw [← hasDerivWithinAt_univ, ← Iic_union_Ici (a := x)]
    refine .union ?_ ?_
    · rw [hl' x le_rfl]
      exact (dl x).hasDerivWithinAt.congr (fun y hy => hl y hy) (hl x le_rfl)
    · rw [hr' x le_rfl]
      exact (dr x).hasDerivWithinAt.congr (fun y hy => hr y hy) (hr x le_rfl)
  · rw [hr' x hx.le]
    refine (dr x).congr_of_eventuallyEq ?_
    filter_upwards [Ioi_mem_nhds hx] with y hy using hr y (le_of_lt hy)

theorem continuous_glue {F l r : ℝ → ℝ} {c : ℝ}
    (hl : ∀ x ≤ c, F x = l x) (hr : ∀ x, c ≤ x → F x = r x)
    (cl : Continuous l) (cr : Continuous r) : Continuous F := by
  have e : F = fun x => if x ≤ c then l x else r x := by
    funext x
    split_ifs with h
    exacts [hl x h, hr x (not_le.mp h).le]
  rw [e]
  refine cl.if_le cr continuous_id continuous_const fun x hx => ?_
  rw [← hl x hx.le, hr x hx.ge]

/-- `F` is `l` on `(-∞, a]`, `m` on `[a, b]` and `r` on `[b, ∞)`. -/
structure Glued (a b : ℝ) (l m r F : ℝ → ℝ) : Prop where
  left : ∀ x ≤ a, F x = l x
  mid : ∀ x, a ≤ x → x ≤ b → F x = m x
  right : ∀ x, b ≤ x → F x = r x

namespace Glued
variable {a b : ℝ} {l m r F : ℝ → ℝ}

/-- the part of `F` left of `b`, continued by `m` -/
private theorem leftPart (h : Glued a b l m r F) (hab : a ≤ b) :
    (∀ x ≤ a, (fun x => if x ≤ b then F x else m x) x = l x) ∧
    ∀ x, a ≤ x → (fun x => if x ≤ b then F x else m x) x = m x := by
  refine ⟨fun x hx => ?_, fun x hx => ?_⟩
  · simp only [hx.trans hab, if_true, h.left x hx]
  · by_cases hb : x ≤ b
    · simp only [hb, if_true, h.mid x hx hb]
    · simp only [hb, if_false]

/-- If `D` is glued from the derivatives of the pieces of `F`, then `F' = D` everywhere,
in particular at the two breakpoints. -/
theorem hasDerivAt {l' m' r' D : ℝ → ℝ} (hF : Glued a b l m r F) (hD : Glued a b l' m' r' D)
    (hab : a ≤ b) (dl : ∀ x, HasDerivAt l (l' x) x) (dm : ∀ x, HasDerivAt m (m' x) x)
    (dr : ∀ x, HasDerivAt r (r' x) x) (x : ℝ) : HasDerivAt F (D x) x := by
  obtain ⟨f1, f2⟩ := hF.leftPart hab
  obtain ⟨d1, d2⟩ := hD.leftPart hab
  refine hasDerivAt_glue (c := b) (l := fun x => if x ≤ b then F x else m x)
    (l' := fun x => if x ≤ b then D x else m' x) (fun x hx => ?_) hF.right (fun x hx => ?_)
    hD.right (hasDerivAt_glue f1 f2 d1 d2 dl dm) dr x
  all_goals simp only [hx, if_true]

/-- A three-way `if` on strict comparisons is glued from its branches as soon as they agree at
the breakpoints. -/
theorem of_ite (hab : a ≤ b) (ha : l a = m a) (hb : m b = r b) :
    Glued a b l m r fun x => if b < x then r x else if a < x then m x else l x where
  left x hx := by rw [if_neg (hx.trans hab).not_gt, if_neg hx.not_gt]
  mid x h1 h2 := by
    rw [if_neg h2.not_gt]
    rcases h1.eq_or_lt with rfl | h1
    · rw [if_neg (lt_irrefl _), ha]
    · rw [if_pos h1]
  right x hx := by
    rcases hx.eq_or_lt with rfl | hx
    · rw [if_neg (lt_irrefl _), ← hb]
      rcases hab.eq_or_lt with rfl | hab
      · rw [if_neg (lt_irrefl _), ha]
      · rw [if_pos hab]
    · rw [if_pos hx]

end Glued
end Pyhf
