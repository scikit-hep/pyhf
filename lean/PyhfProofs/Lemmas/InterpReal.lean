import PyhfModel.Interp
import PyhfProofs.Lemmas.RealPrim
import PyhfProofs.Lemmas.Piecewise
import Mathlib.Analysis.Calculus.Deriv.Pow
import Mathlib.Tactic.Ring
import Mathlib.Tactic.FieldSimp
/-! The interpolation codes over `ℝ`, regime by regime.

Every code is a function glued from two or three pieces.  For each `slowK` there is one rewrite
lemma per regime, with the regime as hypothesis and the regimes *closed*: the lemma for `1 ≤ a`
at `a = 1` is the anchor value, and the two lemmas that hold at a breakpoint say that the pieces
meet there.  Anchors, extrapolation, `fast = slow`, continuity and differentiability (through
`Glued`) are all read off these. -/
namespace Pyhf.Interp

theorem sel_decide {α : Type} (p : Prop) [Decidable p] (a b : α) :
    sel (decide p) a b = if p then a else b := by
  unfold sel; simp only [decide_eq_true_eq]

variable {dn nom up a a0 : ℝ}

/-! ## code 0, code 1 -/

theorem slow0_of_nonneg (h : 0 ≤ a) : slow0 dn nom up a = (up - nom) * a := by
  rcases h.eq_or_lt with rfl | h <;> simp [slow0, *]

theorem slow0_of_nonpos (h : a ≤ 0) : slow0 dn nom up a = (nom - dn) * a := if_neg h.not_gt

theorem slow1_of_nonneg (h : 0 ≤ a) : slow1 realPrim dn nom up a = (up / nom) ^ a := by
  rcases h.eq_or_lt with rfl | h <;> simp [slow1, *]

theorem slow1_of_nonpos (h : a ≤ 0) : slow1 realPrim dn nom up a = (dn / nom) ^ (-a) :=
  if_neg h.not_gt

/-! ## code 2 -/

theorem c2a_real (dn nom up : ℝ) : c2a dn nom up = 1 / 2 * (up + dn) - nom := by
  unfold c2a; scinorm
theorem c2b_real (dn up : ℝ) : c2b dn up = 1 / 2 * (up - dn) := by
  unfold c2b; scinorm

theorem slow2_real (dn nom up a : ℝ) : slow2 dn nom up a =
    if 1 < a then (c2b dn up + 2 * c2a dn nom up) * (a - 1) + (c2a dn nom up + c2b dn up)
    else if -1 ≤ a then c2a dn nom up * a * a + c2b dn up * a
    else (c2b dn up - 2 * c2a dn nom up) * (a + 1) + (c2a dn nom up - c2b dn up) := by
  unfold slow2; scinorm

theorem slow2_of_one_le (h : 1 ≤ a) : slow2 dn nom up a =
    (c2b dn up + 2 * c2a dn nom up) * (a - 1) + (c2a dn nom up + c2b dn up) := by
  rw [slow2_real]
  rcases h.eq_or_lt with rfl | h
  · norm_num
  · rw [if_pos h]

theorem slow2_of_abs_le (h1 : -1 ≤ a) (h2 : a ≤ 1) :
    slow2 dn nom up a = c2a dn nom up * a * a + c2b dn up * a := by
  rw [slow2_real, if_neg h2.not_gt, if_pos h1]

theorem slow2_of_le_neg_one (h : a ≤ -1) : slow2 dn nom up a =
    (c2b dn up - 2 * c2a dn nom up) * (a + 1) + (c2a dn nom up - c2b dn up) := by
  rw [slow2_real, if_neg (by linarith)]
  rcases h.eq_or_lt with rfl | h
  · norm_num; ring
  · rw [if_neg h.not_ge]

theorem fast2_real (dn nom up a : ℝ) : fast2 dn nom up a =
    if -1 ≤ a then (if 1 < a then (a - 1) * (c2b dn up + 2 * c2a dn nom up) + (c2a dn nom up + c2b dn up)
                    else a * a * c2a dn nom up + a * c2b dn up)
    else (a + 1) * (c2b dn up - 2 * c2a dn nom up) + (c2a dn nom up - c2b dn up) := by
  unfold fast2; scinorm; simp only [sel_decide]

/-! `slow2_prefix`, `fast2_prefix`: code 2 as it stood before `fix: code2 …` ("pre-fix"; `PyhfModel/Interp.lean`), kept for the two
witness theorems of C03; the missing constant terms and the `a + 0` are that code's. -/

theorem slow2_prefix_real (dn nom up a : ℝ) : slow2_prefix dn nom up a =
    if 1 < a then (c2b dn up + 2 * c2a dn nom up) * (a - 1)
    else if -1 ≤ a then c2a dn nom up * a * a + c2b dn up * a
    else (c2b dn up - 2 * c2a dn nom up) * (a + 1) := by
  unfold slow2_prefix; scinorm

theorem fast2_prefix_real (dn nom up a : ℝ) : fast2_prefix dn nom up a =
    if -1 ≤ a then (if 1 < a then (a - 1) * (c2b dn up + 2 * c2a dn nom up)
                    else a * a * c2a dn nom up + a * c2b dn up)
    else (a + 0) * (c2b dn up - 2 * c2a dn nom up) := by
  unfold fast2_prefix; scinorm; simp only [sel_decide]

/-! ## code 4p -/

/-! `S` and `A` of code 4p -/
noncomputable def s4p (dn nom up : ℝ) : ℝ := 1 / 2 * ((up - nom) + (nom - dn))
noncomputable def a4p (dn nom up : ℝ) : ℝ := 1 / 16 * ((up - nom) - (nom - dn))

/-! the polynomial core of code 4p and its first two derivatives -/
noncomputable def core4p (S A a : ℝ) : ℝ := a * (S + a * A * (15 + a * a * (-10 + a * a * 3)))
noncomputable def core4p' (S A a : ℝ) : ℝ := S + A * (30 * a - 40 * a ^ 3 + 18 * a ^ 5)
noncomputable def core4p'' (A a : ℝ) : ℝ := A * (30 - 120 * a ^ 2 + 90 * a ^ 4)

theorem slow4p_real (dn nom up a : ℝ) : slow4p dn nom up a =
    if 1 < a then (up - nom) * a
    else if a < -1 then (nom - dn) * a
    else core4p (s4p dn nom up) (a4p dn nom up) a := by
  unfold slow4p core4p s4p a4p; scinorm

/-! value and slope of the core at `±1` are those of the two lines -/
theorem core4p_one (dn nom up : ℝ) : core4p (s4p dn nom up) (a4p dn nom up) 1 = (up - nom) * 1 := by
  unfold core4p s4p a4p; ring
theorem core4p_neg_one (dn nom up : ℝ) :
    core4p (s4p dn nom up) (a4p dn nom up) (-1) = (nom - dn) * -1 := by
  unfold core4p s4p a4p; ring
theorem core4p'_one (dn nom up : ℝ) : core4p' (s4p dn nom up) (a4p dn nom up) 1 = up - nom := by
  unfold core4p' s4p a4p; ring
theorem core4p'_neg_one (dn nom up : ℝ) :
    core4p' (s4p dn nom up) (a4p dn nom up) (-1) = nom - dn := by
  unfold core4p' s4p a4p; ring

theorem slow4p_of_one_le (h : 1 ≤ a) : slow4p dn nom up a = (up - nom) * a := by
  rw [slow4p_real]
  rcases h.eq_or_lt with rfl | h
  · rw [if_neg (lt_irrefl _), if_neg (by norm_num), core4p_one]
  · rw [if_pos h]

theorem slow4p_of_abs_le (h1 : -1 ≤ a) (h2 : a ≤ 1) :
    slow4p dn nom up a = core4p (s4p dn nom up) (a4p dn nom up) a := by
  rw [slow4p_real, if_neg h2.not_gt, if_neg h1.not_gt]

theorem slow4p_of_le_neg_one (h : a ≤ -1) : slow4p dn nom up a = (nom - dn) * a := by
  rw [slow4p_real, if_neg (by linarith)]
  rcases h.eq_or_lt with rfl | h
  · rw [if_neg (lt_irrefl _), core4p_neg_one]
  · rw [if_pos h]

theorem fast4p_real (dn nom up a : ℝ) : fast4p dn nom up a =
    if a < -1 then a * (nom - dn)
    else if 1 < a then a * (up - nom)
    else a * a * (a * a * (a * a * 3 - 10) + 15) * a4p dn nom up + a * s4p dn nom up := by
  unfold fast4p s4p a4p; scinorm; simp only [sel_decide]

/-! ## derivatives of the pieces -/

theorem hd_pow (n : ℕ) (a : ℝ) : HasDerivAt (fun a : ℝ => a ^ (n + 1)) ((n + 1 : ℕ) * a ^ n) a := by
  simpa using hasDerivAt_pow (n + 1) a

theorem core4p_hasDerivAt (S A a : ℝ) : HasDerivAt (core4p S A) (core4p' S A a) a := by
  have e : core4p S A = fun a => S * a + A * (15 * a ^ 2 - 10 * a ^ 4 + 3 * a ^ 6) := by
    funext a; unfold core4p; ring
  rw [e]
  have h := ((hasDerivAt_id' a).const_mul S).add
    (((((hd_pow 1 a).const_mul (15:ℝ)).sub ((hd_pow 3 a).const_mul (10:ℝ))).add
      ((hd_pow 5 a).const_mul (3:ℝ))).const_mul A)
  refine h.congr_deriv ?_
  unfold core4p'; push_cast; ring

theorem core4p'_hasDerivAt (S A a : ℝ) : HasDerivAt (core4p' S A) (core4p'' A a) a := by
  have h := (((((hasDerivAt_id' a).const_mul (30:ℝ)).sub ((hd_pow 2 a).const_mul (40:ℝ))).add
      ((hd_pow 4 a).const_mul (18:ℝ))).const_mul A).const_add S
  refine h.congr_deriv ?_
  unfold core4p''; push_cast; ring

theorem lin_hasDerivAt (m c x : ℝ) : HasDerivAt (fun a => m * a + c) m x := by
  have h := ((hasDerivAt_id' x).const_mul m).add_const c
  refine h.congr_deriv ?_
  ring

theorem quad_hasDerivAt (qa qb x : ℝ) :
    HasDerivAt (fun a => qa * a * a + qb * a) (2 * qa * x + qb) x := by
  have h := (((hasDerivAt_id' x).const_mul qa).mul (hasDerivAt_id' x)).add
    ((hasDerivAt_id' x).const_mul qb)
  refine h.congr_deriv ?_
  ring

/-! ## code 4 -/

theorem ipow_eq (x : ℝ) (n : ℕ) : ipow x n = x ^ n := by
  induction n with
  | zero => simp [ipow]
  | succ n ih => simp [ipow, pow_succ, ih]

/-! first and second derivative polynomials of `poly6` -/
noncomputable def dpoly6 (c : Vec6 ℝ) (a : ℝ) : ℝ :=
  c.x1 + 2 * c.x2 * a + 3 * c.x3 * a ^ 2 + 4 * c.x4 * a ^ 3 + 5 * c.x5 * a ^ 4 + 6 * c.x6 * a ^ 5
noncomputable def ddpoly6 (c : Vec6 ℝ) (a : ℝ) : ℝ :=
  2 * c.x2 + 6 * c.x3 * a + 12 * c.x4 * a ^ 2 + 20 * c.x5 * a ^ 3 + 30 * c.x6 * a ^ 4

theorem poly6_real (c : Vec6 ℝ) (a : ℝ) : poly6 c a =
    1 + c.x1 * a + c.x2 * a ^ 2 + c.x3 * a ^ 3 + c.x4 * a ^ 4 + c.x5 * a ^ 5 + c.x6 * a ^ 6 := by
  simp only [poly6, ipow_eq, pow_one]

theorem poly6_zero (c : Vec6 ℝ) : poly6 c 0 = 1 := by
  rw [poly6_real]; ring

theorem poly6_hasDerivAt (c : Vec6 ℝ) (a : ℝ) : HasDerivAt (poly6 c) (dpoly6 c a) a := by
  rw [show poly6 c = _ from funext (poly6_real c)]
  have h := ((((((hasDerivAt_id' a).const_mul c.x1).const_add 1).add ((hd_pow 1 a).const_mul c.x2)).add
    ((hd_pow 2 a).const_mul c.x3)).add ((hd_pow 3 a).const_mul c.x4)).add ((hd_pow 4 a).const_mul c.x5)
    |>.add ((hd_pow 5 a).const_mul c.x6)
  refine h.congr_deriv ?_
  unfold dpoly6; push_cast; ring

theorem dpoly6_hasDerivAt (c : Vec6 ℝ) (a : ℝ) : HasDerivAt (dpoly6 c) (ddpoly6 c a) a := by
  have h := (((((hasDerivAt_id' a).const_mul (2 * c.x2)).const_add c.x1).add
    ((hd_pow 1 a).const_mul (3 * c.x3))).add ((hd_pow 2 a).const_mul (4 * c.x4))).add
    ((hd_pow 3 a).const_mul (5 * c.x5)) |>.add ((hd_pow 4 a).const_mul (6 * c.x6))
  refine h.congr_deriv ?_
  unfold ddpoly6; push_cast; ring

/-- `A_inverse` at `a0` is `A_inverse` at `1` rescaled: coefficient `i` times `a0 ^ i` is coefficient `i` at `1` for the
right-hand side with the slopes times `a0` and the curvatures times `a0 ^ 2` -/
theorem code4Coeffs_scale (h0 : a0 ≠ 0) (b : Vec6 ℝ) :
    let c := code4Coeffs a0 b
    let C := code4Coeffs 1 ⟨b.x1, b.x2, a0 * b.x3, a0 * b.x4, a0 ^ 2 * b.x5, a0 ^ 2 * b.x6⟩
    c.x1 * a0 = C.x1 ∧ c.x2 * a0 ^ 2 = C.x2 ∧ c.x3 * a0 ^ 3 = C.x3 ∧ c.x4 * a0 ^ 4 = C.x4 ∧
      c.x5 * a0 ^ 5 = C.x5 ∧ c.x6 * a0 ^ 6 = C.x6 := by
  simp only [code4Coeffs, ipow_eq, one_pow, mul_one]
  refine ⟨?_, ?_, ?_, ?_, ?_, ?_⟩ <;> field_simp

/-- The sextic with coefficients `A_inverse · b` meets all six boundary conditions. -/
theorem code4Coeffs_bc (h0 : a0 ≠ 0) (b : Vec6 ℝ) :
    poly6 (code4Coeffs a0 b) a0 = 1 + b.x1 ∧ poly6 (code4Coeffs a0 b) (-a0) = 1 + b.x2 ∧
    dpoly6 (code4Coeffs a0 b) a0 = b.x3 ∧ dpoly6 (code4Coeffs a0 b) (-a0) = b.x4 ∧
    ddpoly6 (code4Coeffs a0 b) a0 = b.x5 ∧ ddpoly6 (code4Coeffs a0 b) (-a0) = b.x6 := by
  obtain ⟨s1, s2, s3, s4, s5, s6⟩ := code4Coeffs_scale h0 b
  simp only [poly6_real, dpoly6, ddpoly6]
  generalize code4Coeffs a0 b = c at *
  simp only [code4Coeffs, ipow_eq, one_pow, mul_one] at s1 s2 s3 s4 s5 s6
  scinorm
  have h2 := pow_ne_zero 2 h0
  -- the rows of the boundary-condition matrix at `a0 = 1`; slopes and curvatures carry the factor `a0`, `a0 ^ 2`
  refine ⟨?_, ?_, mul_left_cancel₀ h0 ?_, mul_left_cancel₀ h0 ?_, mul_left_cancel₀ h2 ?_, mul_left_cancel₀ h2 ?_⟩
  · linear_combination s1 + s2 + s3 + s4 + s5 + s6
  · linear_combination -s1 + s2 - s3 + s4 - s5 + s6
  · linear_combination s1 + 2 * s2 + 3 * s3 + 4 * s4 + 5 * s5 + 6 * s6
  · linear_combination s1 - 2 * s2 + 3 * s3 - 4 * s4 + 5 * s5 - 6 * s6
  · linear_combination 2 * s2 + 6 * s3 + 12 * s4 + 20 * s5 + 30 * s6
  · linear_combination 2 * s2 - 6 * s3 + 12 * s4 - 20 * s5 + 30 * s6

/-- the sextic of code 4 for the ratios `du`, `dd` -/
noncomputable abbrev core4 (a0 du dd : ℝ) : Vec6 ℝ := code4Coeffs a0 (code4Rhs realPrim a0 du dd)

/-- `core4` matches value, slope and curvature of `du ^ a` at `a0` and of `dd ^ (-a)` at `-a0` -/
theorem core4_bc (h0 : a0 ≠ 0) (du dd : ℝ) :
    poly6 (core4 a0 du dd) a0 = du ^ a0 ∧ poly6 (core4 a0 du dd) (-a0) = dd ^ a0 ∧
    dpoly6 (core4 a0 du dd) a0 = Real.log du * du ^ a0 ∧
    dpoly6 (core4 a0 du dd) (-a0) = -Real.log dd * dd ^ a0 ∧
    ddpoly6 (core4 a0 du dd) a0 = Real.log du ^ 2 * du ^ a0 ∧
    ddpoly6 (core4 a0 du dd) (-a0) = Real.log dd ^ 2 * dd ^ a0 := by
  obtain ⟨b1, b2, b3, b4, b5, b6⟩ := code4Coeffs_bc h0 (code4Rhs realPrim a0 du dd)
  exact ⟨b1.trans (add_sub_cancel _ _), b2.trans (add_sub_cancel _ _), b3, b4,
    b5.trans (by simp only [code4Rhs, ipow_eq, realPrim_log, realPrim_pow]),
    b6.trans (by simp only [code4Rhs, ipow_eq, realPrim_log, realPrim_pow])⟩

theorem slow4_of_le (h : a0 ≤ a) : slow4 realPrim a0 dn nom up a = (up / nom) ^ a := if_pos h

theorem slow4_of_le_neg (h0 : 0 < a0) (h : a ≤ -a0) :
    slow4 realPrim a0 dn nom up a = (dn / nom) ^ (-a) :=
  (if_neg (by linarith)).trans (if_neg h.not_gt)

theorem slow4_of_abs_lt (h1 : -a0 < a) (h2 : a < a0) :
    slow4 realPrim a0 dn nom up a = poly6 (core4 a0 (up / nom) (dn / nom)) a :=
  (if_neg h2.not_ge).trans (if_pos h1)

theorem slow4_of_abs_le (h0 : 0 < a0) (h1 : -a0 ≤ a) (h2 : a ≤ a0) :
    slow4 realPrim a0 dn nom up a = poly6 (core4 a0 (up / nom) (dn / nom)) a := by
  obtain ⟨b1, b2, -⟩ := core4_bc h0.ne' (up / nom) (dn / nom)
  rcases h2.eq_or_lt with rfl | h2
  · rw [slow4_of_le le_rfl, b1]
  rcases h1.eq_or_lt with rfl | h1
  · rw [b2, slow4_of_le_neg h0 le_rfl, neg_neg]
  · exact slow4_of_abs_lt h1 h2

end Pyhf.Interp
