import PyhfProofs.Lemmas.CombineAdd
import PyhfProofs.Lemmas.PermInvExample
/-!
# Combination of two workspaces with disjoint channels — concrete operands at `Float`

Nothing is evaluated when the file is checked; the definitions are there to be evaluated by hand.

* `report s₁ s₂` builds the two operands and the combination (channels of `s₁` then of `s₂`) and renders: the channel
  order and slices, the six bin-wise side conditions, `D.expected` of the combination, `D.expected` of the operands at
  the parameters identified by name (`pullPar`), `expectedActual` of the combination, and, if `par₁` is given,
  `D.expected` of the first operand at `par₁`.
* `sSR`, `sCR` (no shared staterror): operands for `Props.C16.combine_expected_rates`.
* `sSR`, `sCR'` (**the staterror `mcstat` is declared in both operands**): the combined parameter set `mcstat` then has
  one component per bin of both channels in the merged channel order, while identification by name reads the operand's
  own first components — the case `NoSharedStaterror` excludes and `combine_mainLogpdf_general` (`BinwiseAgree`:
  components matched by each model's own offset) is stated for.
-/
namespace Pyhf.Combine.Example
open Pyhf Pyhf.Combine Pyhf.PermInv.Example

def crS : Sample Float := { name := "background", data := [50.0, 60.0], mods := [mS, mN2] }
def sSR : Spec Float := { channels := [{ name := "SR", samples := [sigA, bkgA] }], parameters := [pLumi, pMu] }
def sCR : Spec Float := { channels := [{ name := "CR", samples := [crA] }] }
def sCR' : Spec Float := { channels := [{ name := "CR", samples := [crS] }] }
def par : Nat → Float := fun i => [1.02, 0.3, 1.2, -0.4, 0.97, 1.05, 1.1, 0.9].getD i 1.0

def report (s₁ s₂ : Spec Float) (par₁ : Option (Nat → Float) := none) : String :=
  let s : Spec Float := { channels := s₁.channels ++ s₂.channels, parameters := s₁.parameters }
  match buildModel floatPrim s {}, buildModel floatPrim s₁ {}, buildModel floatPrim s₂ {} with
  | .ok m, .ok m₁, .ok m₂ =>
    toString m.cfg.channels ++ " " ++ toString m.slices ++ "\n" ++ toString m₁.slices ++ " " ++ toString m₂.slices ++ "\n" ++
    toString [binwiseOK m₁, singularCovers m₁, binwiseOK m₂, singularCovers m₂, binwiseOK m, singularCovers m] ++ "\n" ++
    toString (D.expected floatPrim m par) ++ "\n" ++
    toString (D.expected floatPrim m₁ (pullPar m m₁ par)) ++ " " ++ toString (D.expected floatPrim m₂ (pullPar m m₂ par)) ++ "\n" ++
    toString (expectedActual floatPrim m par) ++
    (match par₁ with | some p => "\n" ++ toString (D.expected floatPrim m₁ p) | none => "")
  | _, _, _ => "refused"


end Pyhf.Combine.Example
