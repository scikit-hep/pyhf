import PyhfProofs.Properties.C20
import PyhfProofs.Lemmas.Cells
/-!
# Which errors can `buildModel` refuse with?

"Every refusal of the modelled construction path is one of pyhf's own exception classes" is false as it stands: a
`shapesys` or `staterror` modifier declared only on samples whose `data` list is empty acts on no bin, and the
construction then dies with Python's `IndexError` (witnesses: `RejectPyhfCounterexample.lean`).  That is the only way
(`buildModel_error_classified`).  The other non-pyhf exits of the model are unreachable: the `KeyError` of `reduceOne`
(requirement lists are non-empty) and of `orphanError` (after the duplicate checks every listed modifier has a builder
entry), both `TypeError` exits of `createParamsets` (every builder's requirement has `inits`, and `auxdata` if
constrained: `Req.good`), the `ValueError` of `reindexError` (the parameter set has one component per bin of the mask:
`reindex_shapesys_entry`, `reindex_staterror_entry` in `Cells.lean`).  Everything is generic in the number type `K`.
The exits of the walk and of the POI check are property theorems of C20 (`walkError_isPyhf`, `poiCheck_error_isPyhf`),
which is why this module imports `Properties/C20`.
-/
set_option linter.unusedSectionVars false
namespace Pyhf
open List

section
variable {K : Type} [Add K] [Sub K] [Mul K] [Div K] [Neg K] [OfNat K 0] [OfNat K 1]
  [OfScientific K] [LT K] [LE K] [DecidableLT K] [DecidableLE K] [BEq K]

/-! ## the non-pyhf exits that cannot be taken (`TypeError`, `KeyError`, `ValueError`) -/

/-- a requirement that leads to a parameter set with initial values and, if constrained, auxiliary data -/
def Req.good (r : Req K) : Prop :=
  r.inits ≠ .undef ∧ ((r.ptype != .unconstrained) = true → r.auxdata ≠ .undef)

theorem reduceOne_good {name : String} {rs : List (Req K)} {u : Option (ParCfg K)} {p : Paramset K}
    (h : reduceOne name rs u = .ok p) (hg : ∀ r ∈ rs, r.good) :
    p.inits.isSome = true ∧ (p.constrained = true → p.auxdata.isSome = true) := by
  obtain ⟨r, rest, rfl, -, ⟨a1, -, a3, -⟩, rfl⟩ := Overrides.reduceOne_ok_cons h
  obtain ⟨g1, g2⟩ := hg r mem_cons_self
  exact ⟨a1.merged_isSome g1, fun hc => a3.merged_isSome (g2 hc)⟩

/-- every listed modifier is backed by a parameter set: the `KeyError` of `par_map[name]` cannot occur once the
duplicate checks have passed -/
theorem orphanError_none (P : Prim K) (s : Spec K) (hd : specDuplicates s = false) (ps : List (Paramset K))
    (hc : createParamsets P s (mkConfig s) = .ok ps) : orphanError (mkConfig s) ps = none := by
  refine if_neg fun h => ?_
  obtain ⟨⟨n, t⟩, hmem, hno⟩ := List.any_eq_true.mp h
  obtain ⟨bl, hb, hps⟩ := paramset_of_builder_entry P s _ ps hc t
  obtain ⟨e, he, rfl⟩ : ∃ e ∈ bl, e.1 = n := by
    by_cases ht : t = .staterror
    · subst ht
      exact (builderReqs_staterror P s _ bl hb).2 n hmem
    · obtain ⟨c, hc', sm, hsm, x, m, hfs, hfm⟩ := declared_of_mem s hd n t hmem
      exact (builderReqs_cells P s _ t ht bl hb).2 _
        ((mem_declaringCells s _ t n x m).mpr ⟨c, hc', sm, hsm, hfs, hmem, hfm⟩)
  obtain ⟨p, hp, -⟩ := hps e he
  rw [Bool.not_eq_true', List.any_eq_false] at hno
  exact hno p (List.mem_of_find?_eq_some hp) (List.find?_some hp :)

/-- `_reindex_access_field` can only fail with the `IndexError` of a modifier that acts on no bin -/
theorem reindexError_classified (s : Spec K) (cfg : Config) (sl : List (String × Nat × Nat)) (t : ModType)
    (hentry : ∀ n sm, (n, t) ∈ cfg.modifiers → singularSample s cfg n t = some sm →
      (selection sl n).length = (maskTab s cfg n t sm).count true)
    (e : Err) (h : reindexError s cfg sl t = some e) :
    e = .pyIndexError ∧ ∃ n, (n, t) ∈ cfg.modifiers ∧ singularSample s cfg n t = none := by
  obtain ⟨⟨n, t'⟩, hmem0, hbody⟩ := List.exists_of_findSome?_eq_some h
  obtain ⟨hmem, ht⟩ := List.mem_filter.mp hmem0
  cases eq_of_beq ht
  simp only [singularMask] at hbody
  cases hs : singularSample s cfg n t' with
  | none =>
    rw [hs] at hbody
    cases hbody
    exact ⟨rfl, n, hmem, hs⟩
  | some sm =>
    rw [hs, Option.map_some] at hbody
    simp [hentry n sm hmem hs] at hbody

/-! ## failures of parameter-set creation -/

theorem builder_good (P : Prim K) (s : Spec K) (cfg : Config) (t : ModType) (bl : List (String × Req K))
    (hb : builderReqs P s cfg t = .ok bl) : ∀ e ∈ bl, e.2.good := by
  intro e he
  by_cases ht : t = .staterror
  · subst ht
    obtain ⟨sig, fx, _, her⟩ := (builderReqs_staterror P s cfg bl hb).1 e he
    rw [her]
    exact ⟨nofun, fun _ => nofun⟩
  · obtain ⟨c, _, rfl⟩ := (builderReqs_cells P s cfg t ht bl hb).1 e he
    cases t with
    | normfactor | shapefactor => exact ⟨nofun, fun h => (Bool.false_ne_true h).elim⟩
    | _ => exact ⟨nofun, fun _ => nofun⟩

/-- only the `staterror` builder can fail, and only in `staterror_builder.finalize` -/
theorem requiredParamsets_error (P : Prim K) (s : Spec K) (cfg : Config) (e : Err)
    (h : requiredParamsets P s cfg = .error e) :
    ∃ n, (n, ModType.staterror) ∈ cfg.modifiers ∧ staterrorSigmas P s cfg n = .error e := by
  rw [requiredParamsets_eq] at h
  rcases bind_eq_error.mp h with h | ⟨_, _, h⟩
  · obtain ⟨t, _, hb⟩ := mapM_error _ _ _ h
    by_cases ht : t = .staterror
    · subst ht
      rw [builderReqs_staterror_eq] at hb
      rcases bind_eq_error.mp hb with hb | ⟨_, _, hb⟩
      · obtain ⟨⟨n, t⟩, hnt, hs⟩ := mapM_error _ _ _ hb
        obtain ⟨hmem, ht⟩ := List.mem_filter.mp hnt
        cases eq_of_beq ht
        rcases bind_eq_error.mp hs with hs | ⟨_, _, hs⟩
        · exact ⟨n, hmem, hs⟩
        · cases hs
      · cases hb
    · rw [builderReqs_eq P s cfg t ht] at hb; cases hb
  · cases h

/-- parameter-set creation fails with a pyhf exception, except for the `IndexError` of `staterror_builder.finalize`
on a `staterror` modifier that acts on no bin at all -/
theorem createParamsets_error_classified (P : Prim K) (s : Spec K) (cfg : Config) (e : Err)
    (h : createParamsets P s cfg = .error e) :
    e.isPyhf = true ∨
      (e = .pyIndexError ∧ ∃ n, (n, ModType.staterror) ∈ cfg.modifiers ∧ singularSample s cfg n .staterror = none) := by
  rw [createParamsets_eq] at h
  rcases bind_eq_error.mp h with h | ⟨reqs, hreqs, h⟩
  · obtain ⟨n, hn, hs⟩ := requiredParamsets_error P s cfg e h
    rcases Overrides.staterrorSigmas_error P s cfg n e hs with ⟨hp, rfl⟩ | rfl
    · exact .inr ⟨rfl, n, hn, congrArg List.getLast? hp⟩
    · exact .inl rfl
  have hspec := (requiredParamsets_spec P s cfg reqs hreqs).2.1
  left
  rcases ite_error_eq_error h with ⟨_, rfl⟩ | ⟨_, h⟩
  · rfl
  rcases bind_eq_error.mp h with h | ⟨ps, hm, h⟩
  · obtain ⟨a, ha, hred⟩ := mapM_error _ _ _ h
    obtain ⟨r, rest, hrs⟩ := List.exists_cons_of_ne_nil (hspec a ha).1
    rw [hrs] at hred
    exact Overrides.reduceOne_error_isPyhf _ _ _ _ _ hred
  -- the two `TypeError` exits need a parameter set without `inits` / a constrained one without `auxdata`
  have hgood : ∀ p ∈ ps, p.inits.isSome = true ∧ (p.constrained = true → p.auxdata.isSome = true) := by
    intro p hp
    obtain ⟨a, ha, hred⟩ := mapM_ok_right hm hp
    refine reduceOne_good hred fun r hr => ?_
    obtain ⟨t, bl, hb, hmem⟩ := (hspec a ha).2 r hr
    exact builder_good P s cfg t bl hb _ hmem
  rcases ite_error_eq_error h with ⟨h1, _⟩ | ⟨_, h⟩
  · obtain ⟨p, hp, hc⟩ := List.any_eq_true.mp h1
    rw [Bool.and_eq_true] at hc
    have := (hgood p hp).2 hc.1
    rw [Option.isNone_iff_eq_none.mp hc.2] at this
    cases this
  rcases ite_error_eq_error h with ⟨_, rfl⟩ | ⟨_, h⟩
  · rfl
  obtain ⟨h3, _⟩ := (ite_error_eq_error h).resolve_right fun h => nomatch h.2
  obtain ⟨p, hp, hc⟩ := List.any_eq_true.mp h3
  have := (hgood p hp).1
  rw [Option.isNone_iff_eq_none.mp hc] at this
  cases this

/-! ## the classification of refusals -/

/-- every `shapesys` / `staterror` modifier of the channel summary acts on at least one bin of some sample
(fails exactly when such a modifier is declared only on samples with an empty `data` list) -/
def binwiseNonempty (s : Spec K) : Bool :=
  (mkConfig s).modifiers.all fun (n, t) =>
    !(t == .shapesys || t == .staterror) || (singularSample s (mkConfig s) n t).isSome

/-- the schema's `minItems: 1` on sample data -/
def dataNonempty (s : Spec K) : Bool := s.channels.all fun c => c.samples.all fun x => !x.data.isEmpty

theorem binwiseNonempty_false (s : Spec K) (n : String) (t : ModType) (hmem : (n, t) ∈ (mkConfig s).modifiers)
    (ht : t = .shapesys ∨ t = .staterror) (hs : singularSample s (mkConfig s) n t = none) :
    binwiseNonempty s = false := by
  unfold binwiseNonempty
  rw [List.all_eq_false]
  refine ⟨(n, t), hmem, ?_⟩
  simp only [hs]
  rcases ht with rfl | rfl <;> simp

theorem singularSample_isSome {s : Spec K} {cfg : Config} {n : String} {t : ModType} {sm : String}
    (hsm : sm ∈ cfg.samples) (h : (maskTab s cfg n t sm).any id = true) : (singularSample s cfg n t).isSome = true := by
  rw [singularSample, List.getLast?_isSome]
  exact List.ne_nil_of_mem (List.mem_filter.mpr ⟨hsm, h⟩)

theorem dataNonempty_binwise (s : Spec K) (hd : specDuplicates s = false) (h : dataNonempty s = true) :
    binwiseNonempty s = true := by
  unfold binwiseNonempty
  rw [List.all_eq_true]
  rintro ⟨n, t⟩ hmem
  obtain ⟨c, hc, sm, hsm, x, m, hf, hm⟩ := declared_of_mem s hd n t hmem
  obtain ⟨ch, hch, -, hx, -⟩ := PermInv.findSample_some s c sm x hf
  have hne : x.data ≠ [] := by
    simpa using List.all_eq_true.mp (List.all_eq_true.mp h ch hch) x hx
  exact Bool.or_eq_true_iff.mpr (.inr (singularSample_isSome hsm
    ((Overrides.maskTab_any_iff s _ _ _ _).mpr ⟨c, hc, x, hf, by rw [hm]; rfl, hne⟩)))

/-- **Classification.**  Whenever the modelled construction path refuses a specification, the error is one of
pyhf's own exception classes — or it is the `IndexError` raised for a `shapesys`/`staterror` modifier that acts on
no bin (declared only on samples with empty `data`).  `KeyError` (orphan modifier), `ValueError` (access-field
size), `TypeError` (missing `auxdata` / `inits`), `AssertionError`, `RuntimeError` are unreachable. -/
theorem buildModel_error_classified (P : Prim K) (s : Spec K) (st : Settings K) (e : Err)
    (h : buildModel P s st = .error e) :
    e.isPyhf = true ∨ (e = .pyIndexError ∧ binwiseNonempty s = false) := by
  rw [buildModel_eq] at h
  rcases ite_error_eq_error h with ⟨_, rfl⟩ | ⟨hdr, h⟩
  · exact .inl rfl
  rw [Bool.or_eq_true, not_or, Bool.not_eq_true, Bool.not_eq_true] at hdr
  obtain ⟨hd, hr⟩ := hdr
  rcases elim_error_eq_error h with hw | ⟨hw, h⟩
  · exact .inl (Props.C20.walkError_isPyhf s _ _ hw)
  rcases ite_error_eq_error h with ⟨_, rfl⟩ | ⟨_, h⟩
  · exact .inl rfl
  rcases ite_error_eq_error h with ⟨_, rfl⟩ | ⟨_, h⟩
  · exact .inl rfl
  rcases ite_error_eq_error h with ⟨_, rfl⟩ | ⟨hfin, h⟩
  · exact .inl rfl
  rw [Bool.not_eq_true, Bool.not_eq_false'] at hfin
  rcases bind_eq_error.mp h with hc | ⟨ps, hc, h⟩
  · rcases createParamsets_error_classified P s _ _ hc with h1 | ⟨h1, n, hn, hs⟩
    · exact .inl h1
    · exact .inr ⟨h1, binwiseNonempty_false s n _ hn (.inr rfl) hs⟩
  rcases elim_error_eq_error h with ho | ⟨_, h⟩
  · rw [orphanError_none P s hd ps hc] at ho; cases ho
  rcases elim_error_eq_error h with hre | ⟨_, h⟩
  · obtain ⟨h1, n, hn, hs⟩ := reindexError_classified s _ _ .shapesys
      (fun n sm hmem hsm => reindex_shapesys_entry P s hr hw ps hc n sm hmem hsm) _ hre
    exact .inr ⟨h1, binwiseNonempty_false s n _ hn (.inl rfl) hs⟩
  rcases elim_error_eq_error h with hre | ⟨_, h⟩
  · obtain ⟨h1, n, hn, hs⟩ := reindexError_classified s _ _ .staterror
      (fun n sm hmem hsm => reindex_staterror_entry P s hw hfin ps hc n sm hmem hsm) _ hre
    exact .inr ⟨h1, binwiseNonempty_false s n _ hn (.inr rfl) hs⟩
  rcases bind_eq_error.mp h with hp | ⟨_, _, h⟩
  · rw [Props.C20.poiCheck_error_isPyhf _ _ _ _ hp]; exact .inl rfl
  · cases h

end
end Pyhf
