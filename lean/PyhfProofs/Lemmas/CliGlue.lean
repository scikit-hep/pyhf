import PyhfModel.Cli
import Mathlib.Data.List.Nodup
/-! For C19: what `dictIns` and `dictUpdate` do to the keys and the lookups of an association list, splitting at the first `=`,
and `inferCall` / `run` taken apart once. -/
namespace Pyhf.Props.C19
open Pyhf.Cli

theorem dictIns_keys {β : Type} (d : List (String × β)) (k : String) (v : β) :
    (dictIns d k v).map (·.1) = if d.any (·.1 == k) then d.map (·.1) else d.map (·.1) ++ [k] := by
  unfold dictIns
  split
  · rw [List.map_map]
    refine List.map_congr_left fun e _ => ?_
    simp only [Function.comp]
    split
    · next h => exact (eq_of_beq h).symm
    · rfl
  · simp

theorem dictIns_nodup {β : Type} (d : List (String × β)) (k : String) (v : β) (h : (d.map (·.1)).Nodup) :
    ((dictIns d k v).map (·.1)).Nodup := by
  rw [dictIns_keys]
  split
  · exact h
  · next hk =>
    refine List.concat_eq_append ▸ h.concat fun hm => hk ?_
    obtain ⟨e, he, rfl⟩ := List.mem_map.1 hm
    exact List.any_eq_true.2 ⟨e, he, beq_self_eq_true _⟩

theorem dictIns_get {β : Type} (d : List (String × β)) (k k' : String) (v : β) :
    dictGet (dictIns d k v) k' = if k' = k then some v else dictGet d k' := by
  have hfind : d.find? (·.1 == k) = none ↔ ¬d.any (·.1 == k) = true := by
    rw [List.find?_eq_none, List.any_eq_true]; simp only [not_exists, not_and]
  unfold dictGet dictIns
  split
  · next hany =>
    -- overwriting in place keeps every key, so the same entry is found; its value is `v` if the key is `k`
    have hkey : ((·.1 == k') ∘ fun e : String × β => if e.1 == k then (k, v) else e) = (·.1 == k') :=
      funext fun e => by by_cases he : e.1 = k <;> simp [he]
    rw [List.find?_map, hkey]
    cases hf : d.find? (·.1 == k') with
    | none => rw [if_neg fun (e : k' = k) => hfind.1 (e ▸ hf) hany]; rfl
    | some e =>
      obtain rfl : e.1 = k' := by simpa using List.find?_some hf
      by_cases he : e.1 = k <;> simp [he]
  · next hany =>
    rw [List.find?_append]
    by_cases hkk : k' = k
    · rw [hkk, hfind.2 hany]; simp
    · cases d.find? (·.1 == k') <;> simp [hkk, Ne.symm hkk]

theorem any_eq_isSome_dictGet {β : Type} (d : List (String × β)) (a : String) : d.any (·.1 == a) = (dictGet d a).isSome := by
  rw [dictGet, Option.isSome_map, List.isSome_find?]

theorem dictIns_any {β : Type} (d : List (String × β)) (k a : String) (v : β) :
    (dictIns d k v).any (·.1 == a) = (d.any (·.1 == a) || k == a) := by
  rw [any_eq_isSome_dictGet, any_eq_isSome_dictGet, dictIns_get]
  by_cases h : a = k
  · simp [h]
  · simp [h, Ne.symm h]

/-- the keys after `d.update(e)` are those of `d` and those of `e` -/
theorem dictUpdate_any {β : Type} (d e : List (String × β)) (a : String) :
    (dictUpdate d e).any (·.1 == a) = (d.any (·.1 == a) || e.any (·.1 == a)) := by
  induction e generalizing d with
  | nil => simp [dictUpdate]
  | cons x xs ih => exact (ih (dictIns d x.1 x.2)).trans (by rw [dictIns_any, List.any_cons, Bool.or_assoc])

theorem dictIns_unit_idem (d : List (String × Unit)) (a : String) (h : d.any (·.1 == a) = true) : dictIns d a () = d := by
  unfold dictIns
  rw [if_pos h]
  refine (List.map_congr_left fun e _ => ?_).trans (List.map_id d)
  split
  · next he => exact Prod.ext (eq_of_beq he).symm rfl
  · rfl

theorem split_lists (l r : List Char) (h : '=' ∉ l) :
    (l ++ '=' :: r).takeWhile (· != '=') = l ∧ (l ++ '=' :: r).dropWhile (· != '=') = '=' :: r := by
  have hl : ∀ c ∈ l, (c != '=') = true := fun c hc => by simpa using fun e : c = '=' => h (e ▸ hc)
  rw [List.takeWhile_append_of_pos hl, List.dropWhile_append_of_pos hl]
  exact ⟨List.append_nil l, rfl⟩

/-- an inference subcommand that is not a usage error parsed its `--optconf` and makes the call `k` names -/
theorem inferCall_of_ne_usageError {o : InferOpts} {k : String → Option String → String → List (String × String) → LibCall}
    (h : inferCall o k ≠ .usageError) :
    ∃ conf, confOf o.optconf = some conf ∧
      inferCall o k = k (backendName o.backend) ((backendCall o.backend).bind (·.2)) o.optimizer conf := by
  unfold inferCall at h ⊢
  split at h
  · next hok =>
    cases hc : confOf o.optconf with
    | none => rw [hc] at h; exact absurd rfl h
    | some conf => exact ⟨conf, rfl, if_pos hok⟩
  · exact absurd rfl h

/-! `run` after `dispatch`: the fifteen-way `match` is taken apart here, once -/

theorem run_of_usageError {a : Args} (sink : Sink) (exec : LibCall → Option String) (h : dispatch a = .usageError) :
    run a sink exec = { exit := 2, stdout := "", file := none } := by
  unfold run; rw [h]

theorem run_of_ne_usageError {a : Args} (sink : Sink) (exec : LibCall → Option String) (h : dispatch a ≠ .usageError) :
    run a sink exec =
      match exec (dispatch a) with
      | none => { exit := 1, stdout := "", file := none }
      | some text =>
        match sink with
        | .stdout => { exit := 0, stdout := text ++ "\n", file := none }
        | .file => { exit := 0, stdout := "", file := some text } := by
  unfold run
  generalize dispatch a = c at h
  cases c
  case usageError => exact absurd rfl h
  all_goals rfl

end Pyhf.Props.C19
