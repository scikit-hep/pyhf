import PyhfModel.Params
import PyhfProofs.Lemmas.Except
import Mathlib.Data.List.Induction
/-!
# The requirement dictionary of `createParamsets`

`requiredParamsets` runs the seven builders and groups their `(name, requirement)` entries by name; each builder's
output is itself a `setdefault` dictionary.  Both are association lists keyed by name, built by a left fold; both
folds may fail in the middle.  Here: a failing fold with a pure update is `mapM` followed by a pure fold
(`foldlM_bind_pure`), so that `requiredParamsets_eq`, `builderReqs_eq`, `builderReqs_staterror_eq` present the three
folds as "collect, then `grouped` / `firstWins`", and what is known of the entries of `grouped l` and `firstWins l`
in terms of the members of `l`.
-/
set_option linter.unusedSectionVars false
namespace Pyhf
open List

/-! ## dictionaries as association lists keyed by name -/

theorem mem_setDefault {β : Type} {d : List (String × β)} {k : String} {v : β} {e : String × β} :
    e ∈ setDefault d k v ↔ e ∈ d ∨ (d.any (·.1 == k) = false ∧ e = (k, v)) := by
  unfold setDefault
  cases h : d.any (·.1 == k) <;> simp

theorem setDefault_key {β : Type} (d : List (String × β)) (k : String) (v : β) : ∃ e ∈ setDefault d k v, e.1 = k := by
  cases h : d.any (·.1 == k)
  · exact ⟨(k, v), mem_setDefault.mpr (.inr ⟨h, rfl⟩), rfl⟩
  · obtain ⟨e, he, hk⟩ := List.any_eq_true.mp h
    exact ⟨e, mem_setDefault.mpr (.inl he), by simpa using hk⟩

/-- the dictionary built by `setdefault` from a list of entries: the first entry of each key -/
def firstWins {β : Type} (l : List (String × β)) : List (String × β) := l.foldl (fun d e => setDefault d e.1 e.2) []

theorem firstWins_concat {β : Type} (l : List (String × β)) (e : String × β) :
    firstWins (l ++ [e]) = setDefault (firstWins l) e.1 e.2 := by simp [firstWins]

theorem mem_firstWins {β : Type} {l : List (String × β)} {e : String × β} (h : e ∈ firstWins l) : e ∈ l := by
  induction l using List.reverseRecOn with
  | nil => cases h
  | append_singleton l x ih =>
    rw [firstWins_concat, mem_setDefault] at h
    rcases h with h | ⟨_, rfl⟩
    · exact mem_append_left _ (ih h)
    · simp

theorem firstWins_key {β : Type} {l : List (String × β)} {e : String × β} (h : e ∈ l) : ∃ e' ∈ firstWins l, e'.1 = e.1 := by
  induction l using List.reverseRecOn with
  | nil => cases h
  | append_singleton l x ih =>
    rw [firstWins_concat]
    rcases mem_append.mp h with h | h
    · obtain ⟨e', he', hk⟩ := ih h
      exact ⟨e', mem_setDefault.mpr (.inl he'), hk⟩
    · rw [mem_singleton.mp h]; exact setDefault_key _ _ _

/-- append `r` to the list stored under `n`, creating the entry if there is none (the step of `_required_paramsets`) -/
def reqStep {β : Type} (d : List (String × List β)) (nr : String × β) : List (String × List β) :=
  match nr with
  | (n, r) =>
    if d.any (·.1 == n) then d.map fun (n', l) => if n' == n then (n', l ++ [r]) else (n', l)
    else d ++ [(n, [r])]

/-- the dictionary name ↦ list of values, in order of first appearance -/
def grouped {β : Type} (l : List (String × β)) : List (String × List β) := l.foldl reqStep []

def lookup {β : Type} (d : List (String × β)) (n : String) : Option β := (d.find? (·.1 == n)).map (·.2)

theorem grouped_concat {β : Type} (l : List (String × β)) (e : String × β) :
    grouped (l ++ [e]) = reqStep (grouped l) e := by simp [grouped]

theorem find?_map_key {β : Type} (f : String × β → String × β) (hf : ∀ x, (f x).1 = x.1) (d : List (String × β))
    (k : String) : (d.map f).find? (·.1 == k) = (d.find? (·.1 == k)).map f := by
  rw [List.find?_map]; congr 2; funext x; simp [hf]

theorem lookup_reqStep {β : Type} (d : List (String × List β)) (n : String) (r : β) (k : String) :
    lookup (reqStep d (n, r)) k = if n == k then some ((lookup d k).getD [] ++ [r]) else lookup d k := by
  have hany : d.any (·.1 == n) = (d.find? (·.1 == n)).isSome := by
    rw [Bool.eq_iff_iff, List.any_eq_true, List.find?_isSome]
  unfold reqStep lookup
  simp only [hany]
  split
  · rename_i hsome
    rw [find?_map_key _ (fun x => by split <;> rfl)]
    cases hfd : d.find? (·.1 == k) with
    | none => split
              · rename_i hnk; rw [eq_of_beq hnk, hfd] at hsome; cases hsome
              · rfl
    | some y =>
      obtain ⟨a, b⟩ := y
      have hy : a = k := by simpa using List.find?_some hfd
      subst hy
      by_cases h : a = n
      · simp [h]
      · simp [h, Ne.symm h]
  · rename_i hnone
    rw [List.find?_append]
    by_cases h : n = k
    · subst h
      rw [Option.not_isSome_iff_eq_none.mp hnone]; simp
    · simp [h]

theorem lookup_grouped {β : Type} {l : List (String × β)} {n : String} {r : β} (h : (n, r) ∈ l) :
    ∃ rs, lookup (grouped l) n = some rs ∧ r ∈ rs := by
  induction l using List.reverseRecOn with
  | nil => cases h
  | append_singleton l x ih =>
    rw [grouped_concat, lookup_reqStep]
    split
    · refine ⟨_, rfl, ?_⟩
      rcases mem_append.mp h with h | h
      · obtain ⟨rs, hrs, hr⟩ := ih h
        rw [hrs]; exact mem_append_left _ hr
      · cases mem_singleton.mp h; simp
    · rename_i hne
      rcases mem_append.mp h with h | h
      · exact ih h
      · cases mem_singleton.mp h; simp at hne

theorem mem_grouped {β : Type} {l : List (String × β)} {e : String × List β} (h : e ∈ grouped l) :
    e.2 ≠ [] ∧ ∀ x ∈ e.2, (e.1, x) ∈ l := by
  induction l using List.reverseRecOn generalizing e with
  | nil => cases h
  | append_singleton l x ih =>
    rw [grouped_concat] at h
    unfold reqStep at h
    simp only [] at h
    split at h
    · obtain ⟨⟨a, b⟩, he0, rfl⟩ := List.mem_map.mp h
      obtain ⟨h1, h2⟩ := ih he0
      split
      · rename_i han
        refine ⟨by simp, fun x hx => ?_⟩
        rcases mem_append.mp hx with hx | hx
        · exact mem_append_left _ (h2 x hx)
        · rw [mem_singleton.mp hx, eq_of_beq han]; simp
      · exact ⟨h1, fun x hx => mem_append_left _ (h2 x hx)⟩
    · rcases mem_append.mp h with h | h
      · exact ⟨(ih h).1, fun x hx => mem_append_left _ ((ih h).2 x hx)⟩
      · rw [mem_singleton.mp h]; simp

section
variable {K : Type} [Add K] [Sub K] [Mul K] [Div K] [Neg K] [OfNat K 0] [OfNat K 1]
  [OfScientific K] [LT K] [DecidableLT K] [BEq K]

/-! ## the requirement dictionary -/

theorem requiredParamsets_eq (P : Prim K) (s : Spec K) (cfg : Config) :
    requiredParamsets P s cfg =
      ModType.all.mapM (builderReqs P s cfg) >>= fun bls => pure (grouped bls.flatten) := by
  show ModType.all.foldlM (fun acc t => builderReqs P s cfg t >>= fun rs => pure (rs.foldl reqStep acc)) [] = _
  rw [foldlM_bind_pure]
  simp only [grouped, List.foldl_flatten]

theorem mem_ModType_all (t : ModType) : t ∈ ModType.all := by cases t <;> decide

theorem requiredParamsets_spec (P : Prim K) (s : Spec K) (cfg : Config) (reqs : List (String × List (Req K)))
    (h : requiredParamsets P s cfg = .ok reqs) :
    (∀ t bl, builderReqs P s cfg t = .ok bl → ∀ nr ∈ bl, ∃ rs, lookup reqs nr.1 = some rs ∧ nr.2 ∈ rs) ∧
    (∀ e ∈ reqs, e.2 ≠ [] ∧ ∀ r ∈ e.2, ∃ t bl, builderReqs P s cfg t = .ok bl ∧ (e.1, r) ∈ bl) ∧
    (∀ t, ∃ bl, builderReqs P s cfg t = .ok bl) := by
  rw [requiredParamsets_eq, bind_eq_ok] at h
  obtain ⟨bls, hbls, h⟩ := h
  cases h
  refine ⟨fun t bl hb nr hnr => ?_, fun e he => ?_, fun t => ?_⟩
  · obtain ⟨bl', hbl', hb'⟩ := mapM_ok_left hbls (mem_ModType_all t)
    cases hb.symm.trans hb'
    exact lookup_grouped (List.mem_flatten.mpr ⟨bl, hbl', hnr⟩)
  · refine ⟨(mem_grouped he).1, fun r hr => ?_⟩
    obtain ⟨bl, hbl, hmem⟩ := List.mem_flatten.mp ((mem_grouped he).2 r hr)
    obtain ⟨t, _, ht⟩ := mapM_ok_right hbls hbl
    exact ⟨t, bl, ht, hmem⟩
  · obtain ⟨bl, _, hb⟩ := mapM_ok_left hbls (mem_ModType_all t)
    exact ⟨bl, hb⟩

/-! ## what the builders produce -/

theorem mem_declaringCells (s : Spec K) (cfg : Config) (t : ModType) (n : String) (x : Sample K) (m : Modifier K) :
    (n, x, m) ∈ declaringCells s cfg t ↔
      ∃ c ∈ cfg.channels, ∃ sm ∈ cfg.samples, findSample s c sm = some x ∧ (n, t) ∈ cfg.modifiers ∧
        findMod x n t = some m := by
  unfold declaringCells
  simp only [List.mem_flatMap]
  refine exists_congr fun c => and_congr_right fun _ => exists_congr fun sm => and_congr_right fun _ => ?_
  cases findSample s c sm with
  | none => simp
  | some x' =>
    simp only [List.mem_filterMap, Option.some.injEq, Prod.exists]
    constructor
    · rintro ⟨n', t', hmem, h⟩
      split at h
      · rename_i htt
        cases eq_of_beq htt
        obtain ⟨m', hm', h⟩ := Option.map_eq_some_iff.mp h
        cases h
        exact ⟨rfl, hmem, hm'⟩
      · cases h
    · rintro ⟨rfl, hmem, hm⟩
      exact ⟨n, t, hmem, by simp [hm]⟩

/-- what the builder of type `t` records for the declaring cell `(x, m)`; the last case is `shapesys` (the `staterror` builder is
`builderReqs_staterror_eq`, it needs all cells of a name at once) -/
def reqOf (P : Prim K) (t : ModType) (x : Sample K) (m : Modifier K) : Req K :=
  match t with
  | .histosys | .normsys => reqNormalScalar
  | .normfactor => reqNormfactor
  | .lumi => reqLumi
  | .shapefactor => reqShapefactor x.data.length
  | _ => reqShapesys P x.data m.lo

theorem builderReqs_eq (P : Prim K) (s : Spec K) (cfg : Config) (t : ModType) (ht : t ≠ .staterror) :
    builderReqs P s cfg t =
      .ok (firstWins ((declaringCells s cfg t).map fun c => (c.1, reqOf P t c.2.1 c.2.2))) := by
  unfold firstWins
  rw [List.foldl_map]
  cases t <;> first | rfl | exact absurd rfl ht

theorem builderReqs_cells (P : Prim K) (s : Spec K) (cfg : Config) (t : ModType) (ht : t ≠ .staterror)
    (bl : List (String × Req K)) (h : builderReqs P s cfg t = .ok bl) :
    (∀ e ∈ bl, ∃ c ∈ declaringCells s cfg t, e = (c.1, reqOf P t c.2.1 c.2.2)) ∧
    (∀ c ∈ declaringCells s cfg t, ∃ e ∈ bl, e.1 = c.1) := by
  rw [builderReqs_eq P s cfg t ht] at h
  cases h
  refine ⟨fun e he => ?_, fun c hc => firstWins_key (List.mem_map_of_mem (f := fun c => (c.1, reqOf P t c.2.1 c.2.2)) hc)⟩
  obtain ⟨c, hc, rfl⟩ := List.mem_map.mp (mem_firstWins he)
  exact ⟨c, hc, rfl⟩

theorem builderReqs_staterror_eq (P : Prim K) (s : Spec K) (cfg : Config) :
    builderReqs P s cfg .staterror =
      (cfg.modifiers.filter (·.2 == .staterror)).mapM (fun nt =>
        staterrorSigmas P s cfg nt.1 >>= fun sf => pure (nt.1, reqStaterror sf.1 sf.2)) >>= fun es =>
      pure (firstWins es) := by
  unfold firstWins
  rw [← foldlM_bind_pure]
  simp only [bind_assoc, pure_bind]
  rfl

theorem builderReqs_staterror (P : Prim K) (s : Spec K) (cfg : Config)
    (bl : List (String × Req K)) (h : builderReqs P s cfg .staterror = .ok bl) :
    (∀ e ∈ bl, ∃ sig fx, staterrorSigmas P s cfg e.1 = .ok (sig, fx) ∧ e.2 = reqStaterror sig fx) ∧
    (∀ n, (n, ModType.staterror) ∈ cfg.modifiers → ∃ e ∈ bl, e.1 = n) := by
  rw [builderReqs_staterror_eq, bind_eq_ok] at h
  obtain ⟨es, hes, h⟩ := h
  cases h
  refine ⟨fun e he => ?_, fun n hn => ?_⟩
  · obtain ⟨nt, _, h⟩ := mapM_ok_right hes (mem_firstWins he)
    obtain ⟨sf, hsf, h⟩ := bind_eq_ok.mp h
    cases h
    exact ⟨sf.1, sf.2, hsf, rfl⟩
  · obtain ⟨e, he, h⟩ := mapM_ok_left hes (List.mem_filter.mpr ⟨hn, by simp⟩)
    obtain ⟨sf, _, h⟩ := bind_eq_ok.mp h
    cases h
    exact firstWins_key he

/-! ## parameter-set creation -/

theorem createParamsets_eq (P : Prim K) (s : Spec K) (cfg : Config) :
    createParamsets P s cfg =
      requiredParamsets P s cfg >>= fun reqs =>
      if createParamsets.dup (s.parameters.map (·.name)) then .error .invalidModel else
      reqs.mapM (fun e => reduceOne e.1 e.2 (s.parameters.find? (·.name == e.1))) >>= fun ps =>
      if ps.any (fun p => p.constrained && p.auxdata.isNone) then .error .pyTypeError else
      if ps.isEmpty then .error .invalidModel else
      if ps.any (fun p => p.inits.isNone) then .error .pyTypeError else .ok ps := rfl

theorem createParamsets_ok (P : Prim K) (s : Spec K) (cfg : Config) (ps : List (Paramset K))
    (h : createParamsets P s cfg = .ok ps) :
    ∃ reqs, requiredParamsets P s cfg = .ok reqs ∧
      reqs.mapM (fun e => reduceOne e.1 e.2 (s.parameters.find? (·.name == e.1))) = .ok ps := by
  obtain ⟨reqs, hreqs, h⟩ := bind_eq_ok.mp h
  obtain ⟨ps', hm, h⟩ := bind_eq_ok.mp (ite_error_eq_ok h).2
  cases (ite_error_eq_ok (ite_error_eq_ok (ite_error_eq_ok h).2).2).2
  exact ⟨reqs, hreqs, hm⟩

end
end Pyhf
