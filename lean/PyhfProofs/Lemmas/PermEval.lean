import PyhfProofs.Lemmas.PermCongr
/-!
# Reordering invariance — evaluation and the main theorems
(see the header of `PermInv.lean` for the overview)
-/
set_option linter.unusedSectionVars false
namespace Pyhf.PermInv

section
variable {K : Type} [Add K] [Sub K] [Mul K] [Div K] [Neg K] [OfNat K 0] [OfNat K 1]
  [OfScientific K] [LT K] [LE K] [DecidableLT K] [DecidableLE K] [BEq K]

/-! ## evaluation reads the stored specification only through the cell lookups -/

def withSpec (m : Model K) (s' : Spec K) : Model K := { m with spec := s' }

variable {m : Model K} {s' : Spec K}

theorem withSpec_spec : (withSpec m s').spec = s' := rfl
theorem withSpec_cfg : (withSpec m s').cfg = m.cfg := rfl
theorem withSpec_ps : (withSpec m s').ps = m.ps := rfl
theorem withSpec_slices : (withSpec m s').slices = m.slices := rfl
theorem withSpec_npars : (withSpec m s').npars = m.npars := rfl
theorem withSpec_settings : (withSpec m s').settings = m.settings := rfl
theorem withSpec_poiIndex : (withSpec m s').poiIndex = m.poiIndex := rfl

theorem factorVec_congr (P : Prim K) (h : LookupEq m.spec s') (par : Nat → K) (n : String) (t : ModType) (sm : String) :
    factorVec P (withSpec m s') par n t sm = factorVec P m par n t sm := by
  unfold factorVec withSpec
  simp only [← maskTab_congr h, ← varTab_congr h, ← accessField_congr h]

theorem deltaVec_congr (h : LookupEq m.spec s') (par : Nat → K) (n : String) (sm : String) :
    deltaVec (withSpec m s') par n sm = deltaVec m par n sm := by
  unfold deltaVec withSpec
  simp only [← maskTab_congr h, ← varTab_congr h, ← nomTab_congr h]

theorem sampleVec_congr (P : Prim K) (h : LookupEq m.spec s') (par : Nat → K) (sm : String) :
    sampleVec P (withSpec m s') par sm = sampleVec P m par sm := by
  unfold sampleVec
  simp only [factorVec_congr P h, deltaVec_congr h]
  simp only [withSpec_spec, withSpec_cfg, withSpec_settings, ← nomTab_congr h]

theorem expectedBySample_congr (P : Prim K) (h : LookupEq m.spec s') (par : Nat → K) :
    expectedBySample P (withSpec m s') par = expectedBySample P m par :=
  congrArg (List.map · m.cfg.samples) (funext (sampleVec_congr P h par))

theorem expectedActual_congr (P : Prim K) (h : LookupEq m.spec s') (par : Nat → K) :
    expectedActual P (withSpec m s') par = expectedActual P m par := by
  unfold expectedActual
  simp only [expectedBySample_congr P h]
  rfl

theorem constraintTerms_go_congr (par : Nat → K) : ∀ (l : List (Paramset K)) (k : Nat),
    constraintTerms.go (withSpec m s') par l k = constraintTerms.go m par l k := by
  intro l
  induction l with
  | nil => intro k; rfl
  | cons p l ih => intro k; simp only [constraintTerms.go, ih]; rfl

theorem constraintTerms_congr (par : Nat → K) : constraintTerms (withSpec m s') par = constraintTerms m par := by
  unfold constraintTerms
  rw [constraintTerms_go_congr]; rfl

theorem constraintsTV_congr : constraintsTV (withSpec m s') = constraintsTV m := by
  unfold constraintsTV normalData poissonData
  simp only [constraintTerms_congr]

theorem expectedAux_congr (par : Nat → K) : expectedAux (withSpec m s') par = expectedAux m par := by
  unfold expectedAux
  simp only [constraintTerms_congr, constraintsTV_congr]

theorem logpdfTerms_congr (P : Prim K) (h : LookupEq m.spec s') (par : Nat → K) (data : List K) :
    logpdfTerms P (withSpec m s') par data = logpdfTerms P m par data := by
  unfold logpdfTerms
  simp only [expectedActual_congr P h, constraintTerms_congr, constraintsTV_congr]
  rfl

theorem logpdfT_congr (P : Prim K) (L : LogPrim K) (h : LookupEq m.spec s') (par : Nat → K) (data : List K) :
    logpdfT P L (withSpec m s') par data = logpdfT P L m par data := by
  unfold logpdfT; rw [logpdfTerms_congr P h]

theorem expectedData_congr (P : Prim K) (h : LookupEq m.spec s') (par : Nat → K) :
    expectedData P (withSpec m s') par = expectedData P m par := by
  unfold expectedData; rw [expectedActual_congr P h, expectedAux_congr]

theorem mainLogpdfT_congr (P : Prim K) (L : LogPrim K) (h : LookupEq m.spec s') (par : Nat → K) (d : List K) :
    mainLogpdfT P L (withSpec m s') par d = mainLogpdfT P L m par d := by
  unfold mainLogpdfT; rw [expectedActual_congr P h]

theorem constraintLogpdfT_congr (L : LogPrim K) (par : Nat → K) (aux : List K) :
    constraintLogpdfT L (withSpec m s') par aux = constraintLogpdfT L m par aux := by
  unfold constraintLogpdfT
  simp only [constraintTerms_congr, constraintsTV_congr]

theorem samples_len_of_walk (s : Spec K) (hn : SpecND s) (hw : walkError s (mkConfig s) = none) :
    ∀ ch ∈ s.channels, ∀ x ∈ ch.samples, x.data.length = (mkConfig s).nbOf ch.name := fun ch hch x hx =>
  ((walkError_eq_none_iff s _).mp hw ch.name ((mem_cfg_channels s ch.name).mpr ⟨ch, hch, rfl⟩)
    x.name ((mem_cfg_samples s x.name).mpr ⟨ch, hch, x, hx, rfl⟩) x
    (findSample_of_nd s hn ch hch x hx)).1

/-- **Reordering a duplicate-free specification whose samples have, channel by channel, one length changes nothing
in the outcome of model construction**, refusals included, except the stored specification.  (Without the length
condition the class of a refusal can follow the sample order: `PermInvExample`, `badA` / `badB`.) -/
theorem buildModel_perm (P : Prim K) (st : Settings K) {s s' : Spec K} (h : SpecPerm s s') (hn : SpecND s)
    (hlen : ∀ ch ∈ s.channels, ∀ x ∈ ch.samples, ∀ y ∈ ch.samples, x.data.length = y.data.length) :
    buildModel P s' st = (buildModel P s st).map (withSpec · s') :=
  buildModel_congr P st (lookupEq_of_perm h hn) h.pars
    (((specDuplicates_false_iff s').mpr (SpecND.perm h hn)).trans ((specDuplicates_false_iff s).mpr hn).symm)
    (shapesysReuse_perm h).symm (mkConfig_perm h hn hlen).symm

/-- reordering an accepted specification gives an accepted specification, and the constructed model is the same
except for the stored (reordered) specification, whose cell lookups are those of the original: with the
`withSpec` lemmas above this is the whole of the invariance statement (`Props.C15.loglik_perm_invariant`) -/
theorem buildModel_perm_eq (P : Prim K) (st : Settings K) {s s' : Spec K} {m : Model K} (h : SpecPerm s s')
    (hs : buildModel P s st = .ok m) : buildModel P s' st = .ok (withSpec m s') ∧ LookupEq m.spec s' := by
  have hb := buildModel_built P s st m hs
  have hn := (specDuplicates_false_iff s).mp hb.no_duplicates
  refine ⟨?_, by rw [hb.spec_eq]; exact lookupEq_of_perm h hn⟩
  rw [buildModel_perm P st h hn, hs]
  · rfl
  · intro ch hch x hx y hy
    rw [samples_len_of_walk s hn hb.walk_ok ch hch x hx, samples_len_of_walk s hn hb.walk_ok ch hch y hy]

end
end Pyhf.PermInv

namespace Pyhf
open Pyhf.PermInv
section
variable {K : Type} [Add K] [Sub K] [Mul K] [Div K] [Neg K] [OfNat K 0] [OfNat K 1]
  [OfScientific K] [LT K] [LE K] [DecidableLT K] [DecidableLE K] [BEq K]

theorem buildModel_perm_accept_iff (P : Prim K) (st : Settings K) {s s' : Spec K} (h : SpecPerm s s') :
    (∃ m, buildModel P s st = .ok m) ↔ (∃ m', buildModel P s' st = .ok m') :=
  ⟨fun ⟨_, hm⟩ => ⟨_, (buildModel_perm_eq P st h hm).1⟩, fun ⟨_, hm⟩ => ⟨_, (buildModel_perm_eq P st h.symm hm).1⟩⟩

theorem buildModel_perm_reject (P : Prim K) (st : Settings K) {s s' : Spec K} (h : SpecPerm s s') (e : Err)
    (hs : buildModel P s st = .error e) : ∃ e', buildModel P s' st = .error e' := by
  cases hs' : buildModel P s' st with
  | error e' => exact ⟨e', rfl⟩
  | ok m' =>
    obtain ⟨m, hm⟩ := (buildModel_perm_accept_iff P st h).mpr ⟨m', hs'⟩
    rw [hs] at hm; cases hm

/-- **lookups, tables, checks and parameter sets** of a duplicate-free specification are unchanged by reordering
(for any channel summary `cfg`) -/
theorem tables_perm_invariant (P : Prim K) {s s' : Spec K} (h : SpecPerm s s') (hd : specDuplicates s = false) (cfg : Config) :
    specDuplicates s' = false ∧ (shapesysReuse s = false → shapesysReuse s' = false) ∧
    (∀ sm, nomTab s cfg sm = nomTab s' cfg sm) ∧
    (∀ n t sm hi, varTab s cfg n t sm hi = varTab s' cfg n t sm hi) ∧
    (∀ n t sm, maskTab s cfg n t sm = maskTab s' cfg n t sm) ∧
    (∀ n t sm, uncrtTab s cfg n t sm = uncrtTab s' cfg n t sm) ∧
    walkError s cfg = walkError s' cfg ∧
    (∀ t, finalizeLengthsOK s cfg t = finalizeLengthsOK s' cfg t) ∧
    (∀ sl t, reindexError s cfg sl t = reindexError s' cfg sl t) ∧
    requiredParamsets P s cfg = requiredParamsets P s' cfg ∧
    createParamsets P s cfg = createParamsets P s' cfg := by
  have hn := (specDuplicates_false_iff s).mp hd
  have hl := lookupEq_of_perm h hn
  exact ⟨(specDuplicates_false_iff s').mpr (SpecND.perm h hn), fun h0 => shapesysReuse_perm h ▸ h0,
    nomTab_congr hl cfg, varTab_congr hl cfg, maskTab_congr hl cfg, uncrtTab_congr hl cfg, walkError_congr hl cfg,
    finalizeLengthsOK_congr hl cfg, reindexError_congr hl cfg, requiredParamsets_congr P hl cfg,
    createParamsets_congr P hl h.pars cfg⟩

end
end Pyhf
