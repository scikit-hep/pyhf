import Mathlib.Probability.Distributions.Gaussian.Real
import Mathlib.Probability.CDF
import Mathlib.MeasureTheory.Integral.IntegralEqImproper
import Mathlib.MeasureTheory.Integral.IntervalIntegral.FundThmCalculus
import Mathlib.Analysis.Calculus.Deriv.MeanValue
import Mathlib.Analysis.SpecialFunctions.Gaussian.GaussianIntegral
import Mathlib.Analysis.SpecialFunctions.Log.Deriv
import PyhfProofs.Lemmas.Piecewise

/-! The standard normal cdf `Φ` is log-concave: from `Φ' = φ`, `φ' = -x φ` and the Mills-type bound
`x Φ x + φ x ≥ 0` the reversed hazard rate `φ/Φ` is antitone, hence `x ↦ Φ (x - a) / Φ x` is monotone
for `a ≥ 0` (used for the ordering of the expected CLs band, C07). -/

open ProbabilityTheory MeasureTheory
open Set Filter Topology

namespace Pyhf.Mills

noncomputable def Phi (x : ℝ) : ℝ := cdf (gaussianReal 0 1) x

noncomputable def phi (x : ℝ) : ℝ := gaussianPDFReal 0 1 x

theorem phi_eq (x : ℝ) : phi x = (√(2 * Real.pi))⁻¹ * Real.exp (-(x ^ 2) / 2) := by
  simp [phi, gaussianPDFReal]

theorem phi_pos (x : ℝ) : 0 < phi x := gaussianPDFReal_pos 0 1 x one_ne_zero

theorem hasDerivAt_phi (x : ℝ) : HasDerivAt phi (-x * phi x) x := by
  have h1 : HasDerivAt (fun y : ℝ => -(y ^ 2) / 2) (-x) x := by
    have := ((hasDerivAt_pow 2 x).neg).div_const 2
    refine this.congr_deriv ?_
    ring
  have h2 := (h1.exp).const_mul (√(2 * Real.pi))⁻¹
  have h3 : phi = fun y => (√(2 * Real.pi))⁻¹ * Real.exp (-(y ^ 2) / 2) := funext phi_eq
  rw [h3]
  refine h2.congr_deriv ?_
  ring

theorem continuous_phi : Continuous phi := continuous_of_hasDerivAt hasDerivAt_phi

theorem integrable_phi : Integrable phi := integrable_gaussianPDFReal 0 1

theorem integrable_mul_phi : Integrable (fun t => t * phi t) := by
  have := (integrable_mul_exp_neg_mul_sq (b := 1 / 2) (by norm_num)).const_mul
    (√(2 * Real.pi))⁻¹
  refine this.congr (ae_of_all _ fun t => ?_)
  simp only [phi_eq]
  ring

theorem tendsto_phi_atBot : Tendsto phi atBot (𝓝 0) := by
  have h0 : Tendsto (fun y : ℝ => y * y) atBot atTop :=
    tendsto_id.atBot_mul_atBot₀ tendsto_id
  have h1 : Tendsto (fun y : ℝ => -(y ^ 2) / 2) atBot atBot := by
    have := (tendsto_neg_atTop_atBot.comp h0).atBot_div_const (by norm_num : (0 : ℝ) < 2)
    refine this.congr fun y => ?_
    simp only [Function.comp_apply]
    ring
  have h2 := (Real.tendsto_exp_atBot.comp h1).const_mul (√(2 * Real.pi))⁻¹
  rw [mul_zero] at h2
  exact h2.congr fun y => (phi_eq y).symm

theorem Phi_eq_integral (x : ℝ) : Phi x = ∫ t in Iic x, phi t := by
  unfold Phi
  rw [cdf_eq_real, Measure.real, gaussianReal_apply_eq_integral 0 one_ne_zero,
    ENNReal.toReal_ofReal]
  · rfl
  · exact setIntegral_nonneg measurableSet_Iic (fun t _ => (phi_pos t).le)

theorem hasDerivAt_Phi (x : ℝ) : HasDerivAt Phi (phi x) x := by
  have h : ∀ y, Phi y = Phi 0 + ∫ t in (0 : ℝ)..y, phi t := by
    intro y
    rw [Phi_eq_integral, Phi_eq_integral,
      ← intervalIntegral.integral_Iic_sub_Iic integrable_phi.integrableOn
        integrable_phi.integrableOn]
    ring
  have h' : Phi = fun y => Phi 0 + ∫ t in (0 : ℝ)..y, phi t := funext h
  rw [h']
  exact (intervalIntegral.integral_hasDerivAt_right (continuous_phi.intervalIntegrable _ _)
    continuous_phi.aestronglyMeasurable.stronglyMeasurableAtFilter
    continuous_phi.continuousAt).const_add _

theorem Phi_strictMono : StrictMono Phi :=
  strictMono_of_hasDerivAt_pos hasDerivAt_Phi phi_pos

theorem Phi_pos (x : ℝ) : 0 < Phi x :=
  lt_of_le_of_lt (cdf_nonneg _ (x - 1)) (Phi_strictMono (by linarith))

theorem Phi_le_one (x : ℝ) : Phi x ≤ 1 := cdf_le_one _ x

theorem Phi_lt_one (x : ℝ) : Phi x < 1 :=
  lt_of_lt_of_le (Phi_strictMono (by linarith : x < x + 1)) (Phi_le_one _)

theorem Phi_mono : Monotone Phi := Phi_strictMono.monotone

theorem Phi_neg (x : ℝ) : Phi (-x) = 1 - Phi x := by
  have hd : ∀ y, HasDerivAt (fun y => Phi (-y) + Phi y) 0 y := by
    intro y
    have h1 : HasDerivAt (fun y => Phi (-y)) (phi (-y) * (-1)) y :=
      HasDerivAt.comp y (hasDerivAt_Phi (-y)) (hasDerivAt_neg y)
    have h3 : phi (-y) = phi y := by simp [phi_eq]
    exact (h1.add (hasDerivAt_Phi y)).congr_deriv (by rw [h3]; ring)
  have hconst : ∀ y, Phi (-y) + Phi y = Phi (-x) + Phi x := fun y =>
    is_const_of_deriv_eq_zero (fun y => (hd y).differentiableAt) (fun y => (hd y).deriv) y x
  have ht : Tendsto (fun y => Phi (-y) + Phi y) atTop (𝓝 (0 + 1)) :=
    ((tendsto_cdf_atBot (gaussianReal 0 1)).comp tendsto_neg_atTop_atBot).add
      (tendsto_cdf_atTop (gaussianReal 0 1))
  have ht' : Tendsto (fun y => Phi (-y) + Phi y) atTop (𝓝 (Phi (-x) + Phi x)) := by
    simp only [hconst]
    exact tendsto_const_nhds
  have := tendsto_nhds_unique ht ht'
  linarith

/-- from `∫_{-∞}^x t φ(t) dt = −φ(x)` (as `φ' = −t φ`) and `t ≤ x` under the integral -/
theorem mills (x : ℝ) : 0 ≤ x * Phi x + phi x := by
  have h1 : ∫ t in Iic x, t * phi t = -phi x := by
    have := integral_Iic_of_hasDerivAt_of_tendsto' (f := fun t => -phi t)
      (f' := fun t => t * phi t) (a := x) (m := 0)
      (fun t _ => (hasDerivAt_phi t).neg.congr_deriv (by ring))
      integrable_mul_phi.integrableOn (by simpa using tendsto_phi_atBot.neg)
    simpa using this
  have h2 : ∫ t in Iic x, t * phi t ≤ ∫ t in Iic x, x * phi t :=
    setIntegral_mono_on integrable_mul_phi.integrableOn
      (integrable_phi.const_mul x).integrableOn measurableSet_Iic
      (fun t ht => mul_le_mul_of_nonneg_right ht (phi_pos t).le)
  rw [integral_const_mul, ← Phi_eq_integral, h1] at h2
  linarith

theorem antitone_ratio : Antitone (fun x => phi x / Phi x) := by
  have hd : ∀ x, HasDerivAt (fun x => phi x / Phi x)
      ((-x * phi x * Phi x - phi x * phi x) / (Phi x) ^ 2) x :=
    fun x => (hasDerivAt_phi x).div (hasDerivAt_Phi x) (Phi_pos x).ne'
  apply antitone_of_deriv_nonpos (fun x => (hd x).differentiableAt)
  intro x
  rw [(hd x).deriv]
  apply div_nonpos_of_nonpos_of_nonneg _ (sq_nonneg _)
  have h := mul_nonneg (phi_pos x).le (mills x)
  linarith

/-- log-concavity in the form used: `log Φ(x − a) − log Φ(x)` has derivative
`φ/Φ (x − a) − φ/Φ (x) ≥ 0` for `a ≥ 0` -/
theorem Phi_ratio_monotone (a : ℝ) (ha : 0 ≤ a) : Monotone fun x => Phi (x - a) / Phi x := by
  have hd : ∀ x, HasDerivAt (fun x => Real.log (Phi (x - a)) - Real.log (Phi x))
      (phi (x - a) / Phi (x - a) - phi x / Phi x) x := by
    intro x
    have h1 : HasDerivAt (fun x => Phi (x - a)) (phi (x - a)) x :=
      HasDerivAt.comp_sub_const x a (hasDerivAt_Phi (x - a))
    exact (h1.log (Phi_pos _).ne').sub ((hasDerivAt_Phi x).log (Phi_pos _).ne')
  have hm : Monotone (fun x => Real.log (Phi (x - a)) - Real.log (Phi x)) := by
    apply monotone_of_deriv_nonneg (fun x => (hd x).differentiableAt)
    intro x
    rw [(hd x).deriv]
    exact sub_nonneg.2 (antitone_ratio (by linarith))
  intro x y hxy
  have := Real.exp_le_exp.2 (hm hxy)
  rwa [Real.exp_sub, Real.exp_log (Phi_pos _), Real.exp_log (Phi_pos _), Real.exp_sub,
    Real.exp_log (Phi_pos _), Real.exp_log (Phi_pos _)] at this

end Pyhf.Mills
