import PyhfModel.Basic
import PyhfModel.Prob
import Mathlib.Analysis.SpecialFunctions.Pow.Real
import Mathlib.Analysis.SpecialFunctions.Sqrt
import Mathlib.Tactic.NormNum.OfScientific
/-! The model's primitive record instantiated at `ℝ` with Mathlib's functions. -/
namespace Pyhf

noncomputable def realPrim : Prim ℝ :=
  { pow := Real.rpow, log := Real.log, exp := Real.exp, sqrt := Real.sqrt }

@[simp] theorem realPrim_pow (x y : ℝ) : realPrim.pow x y = x ^ y := rfl
@[simp] theorem realPrim_log (x : ℝ) : realPrim.log x = Real.log x := rfl
@[simp] theorem realPrim_exp (x : ℝ) : realPrim.exp x = Real.exp x := rfl
@[simp] theorem realPrim_sqrt (x : ℝ) : realPrim.sqrt x = Real.sqrt x := rfl

theorem absK_real (x : ℝ) : absK x = |x| := by
  unfold absK
  split_ifs with h
  · exact (abs_of_neg h).symm
  · exact (abs_of_nonneg (not_lt.mp h)).symm

/-- over `ℝ` the `xlogy(0, ·) = 0` convention is not a case: `0 * log lam = 0` -/
theorem xlogy_real (n lam : ℝ) : Prob.xlogy realPrim n lam = n * Real.log lam := by
  unfold Prob.xlogy
  split_ifs with h
  · rw [beq_iff_eq.mp h, zero_mul]
  · rfl

/-! Scientific literals of the generic model and of the generated code, as ordinary numerals over `ℝ`
(`ring` must not see `OfScientific` literals directly; rewriting with these is far cheaper than
`norm_num` on a large term). -/
theorem sci_0 : (0.0 : ℝ) = 0 := by norm_num
theorem sci_1 : (1.0 : ℝ) = 1 := by norm_num
theorem sci_2 : (2.0 : ℝ) = 2 := by norm_num
theorem sci_3 : (3.0 : ℝ) = 3 := by norm_num
theorem sci_4 : (4.0 : ℝ) = 4 := by norm_num
theorem sci_5 : (5.0 : ℝ) = 5 := by norm_num
theorem sci_6 : (6.0 : ℝ) = 6 := by norm_num
theorem sci_7 : (7.0 : ℝ) = 7 := by norm_num
theorem sci_8 : (8.0 : ℝ) = 8 := by norm_num
theorem sci_9 : (9.0 : ℝ) = 9 := by norm_num
theorem sci_10 : (10.0 : ℝ) = 10 := by norm_num
theorem sci_15 : (15.0 : ℝ) = 15 := by norm_num
theorem sci_16 : (16.0 : ℝ) = 16 := by norm_num
theorem sci_0_5 : (0.5 : ℝ) = 1 / 2 := by norm_num
theorem sci_1_5 : (1.5 : ℝ) = 3 / 2 := by norm_num
theorem sci_0_0625 : (0.0625 : ℝ) = 1 / 16 := by norm_num
theorem sci_0_125 : (0.125 : ℝ) = 1 / 8 := by norm_num
theorem sci_0_1875 : (0.1875 : ℝ) = 3 / 16 := by norm_num
theorem sci_0_3125 : (0.3125 : ℝ) = 5 / 16 := by norm_num
theorem sci_0_4375 : (0.4375 : ℝ) = 7 / 16 := by norm_num
theorem sci_0_5625 : (0.5625 : ℝ) = 9 / 16 := by norm_num
theorem sci_0_625 : (0.625 : ℝ) = 5 / 8 := by norm_num
theorem sci_0_875 : (0.875 : ℝ) = 7 / 8 := by norm_num
theorem sci_0_9375 : (0.9375 : ℝ) = 15 / 16 := by norm_num
end Pyhf

/-- rewrite the scientific literals into numerals, and real powers with a numeral exponent
(`tensorlib.power(x, 2.0)`) into natural powers -/
macro "scinorm" : tactic =>
  `(tactic| simp only [Pyhf.sci_0, Pyhf.sci_1, Pyhf.sci_2, Pyhf.sci_3, Pyhf.sci_4, Pyhf.sci_5, Pyhf.sci_6,
      Pyhf.sci_7, Pyhf.sci_8, Pyhf.sci_9, Pyhf.sci_10, Pyhf.sci_15, Pyhf.sci_16, Pyhf.sci_0_5,
      Pyhf.sci_1_5, Pyhf.sci_0_0625, Pyhf.sci_0_125, Pyhf.sci_0_1875, Pyhf.sci_0_3125,
      Pyhf.sci_0_4375, Pyhf.sci_0_5625, Pyhf.sci_0_625, Pyhf.sci_0_875, Pyhf.sci_0_9375,
      Real.rpow_ofNat, Real.rpow_one] at *)
