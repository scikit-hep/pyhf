import PyhfProofs.Lemmas.PW
import PyhfModel.Decl
import Mathlib.Algebra.BigOperators.Group.List.Basic
/-!
# The tensor model in pointwise form (theorem R — tensor path = declarative formula —, structural half)

`expectedActual` — computed on mega-channel vectors exactly as the code does — equals the
concatenation over the configuration's channels (with their position `i`) of a per-bin formula
`totalP`.  Generic in the number type: no algebra is used, only list structure.
-/
set_option linter.unusedSectionVars false
namespace Pyhf

section
variable {K : Type} [Add K] [Sub K] [Mul K] [Div K] [Neg K] [OfNat K 0] [OfNat K 1]
  [OfScientific K] [LT K] [LE K] [DecidableLT K] [DecidableLE K] [BEq K]

def Model.nb (m : Model K) (x : Chan) : Nat := m.cfg.nbOf x.1

theorem mem_modsOf (cfg : Config) (t : ModType) (n : String) : n ∈ modsOf cfg t ↔ (n, t) ∈ cfg.modifiers := by
  simp only [modsOf, List.mem_map, List.mem_filter, beq_iff_eq]
  constructor
  · rintro ⟨⟨_, _⟩, ⟨hm, rfl⟩, rfl⟩; exact hm
  · exact fun h => ⟨(n, t), ⟨h, rfl⟩, rfl⟩

/-! ## scatter in pointwise form -/

/-- what `scatterFrom sel` writes at the `k`-th `true` position of a mask (a one-element selection is broadcast) -/
def selRead (sel : List Nat) (k : Nat) : Nat := if sel.length == 1 then sel.headD 0 else sel.getD k 0

theorem offAt_eq (cnts : List Nat) (i : Nat) : offAt cnts i = (cnts.take i).sum := List.sum_eq_foldl.symm

theorem offAt_succ (cnts : List Nat) (i : Nat) (h : i < cnts.length) :
    offAt cnts (i + 1) = offAt cnts i + cnts[i] := by
  rw [offAt_eq, offAt_eq]
  exact List.sum_take_succ cnts i h

/-- `scatter_pw` for the channels `l` that follow an already consumed prefix `pre` -/
theorem scatter_pw_aux (sel : List Nat) (nb : String → Nat) (decl : String → Bool) (pre l : List String) :
    scatterFrom sel (l.flatMap fun c => List.replicate (nb c) (decl c))
        (offAt ((pre ++ l).map fun c => if decl c then nb c else 0) pre.length)
      = pw (fun x : Chan => nb x.1)
          (fun x b => if decl x.1 then
            selRead sel (offAt ((pre ++ l).map fun c => if decl c then nb c else 0) x.2 + b) else 0)
          (l.zipIdx pre.length) := by
  induction l generalizing pre with
  | nil => simp [pw, scatterFrom]
  | cons c cs ih =>
    have ih := ih (pre ++ [c])
    simp only [List.append_assoc, List.singleton_append, List.length_append, List.length_singleton] at ih
    simp only [List.flatMap_cons, List.zipIdx_cons, pw] at ih ⊢
    rw [scatterFrom_append, ← ih, offAt_succ _ _ (by simp)]
    congr 1
    · cases hdc : decl c
      · simp [scatterFrom_false]
      · simp [scatterFrom_replicate_true, selRead]
    · simp only [List.getElem_map, List.getElem_append_right (Nat.le_refl _), Nat.sub_self, List.getElem_cons_zero,
        List.count_replicate]
      cases decl c <;> simp

theorem scatter_pw (sel : List Nat) (all : List String) (nb : String → Nat) (decl : String → Bool) :
    scatter (all.flatMap fun c => List.replicate (nb c) (decl c)) sel
      = pw (fun x : Chan => nb x.1)
          (fun x b => if decl x.1 then selRead sel (offAt (all.map fun c => if decl c then nb c else 0) x.2 + b) else 0)
          all.zipIdx := by
  simpa [scatter, offAt_eq] using scatter_pw_aux sel nb decl [] all

/-- shape hypotheses under which the mega-channel tables are block-structured; every successful `buildModel`
satisfies them (`shape_of_build`, Build.lean) -/
structure Shape (m : Model K) : Prop where
  nmain_eq : m.cfg.nmain = (m.cfg.channels.map m.cfg.nbOf).sum
  nom_len : ∀ c ∈ m.cfg.channels, ∀ sm ∈ m.cfg.samples, (nomBlk m.spec m.cfg sm c).length = m.cfg.nbOf c
  var_len : ∀ c ∈ m.cfg.channels, ∀ n ∈ modsOf m.cfg .histosys, ∀ sm ∈ m.cfg.samples, ∀ hi,
    (varBlk m.spec m.cfg n .histosys sm hi c).length = m.cfg.nbOf c
  sing : ∀ n t, (n, t) ∈ m.cfg.modifiers → (t = .shapesys ∨ t = .staterror) →
    (singularSample m.spec m.cfg n t).isSome = true

/-! ## pointwise leaves -/

def nomP (m : Model K) (sm : String) (x : Chan) (b : Nat) : K := (nomBlk m.spec m.cfg sm x.1).getD b 0
def maskP (m : Model K) (n : String) (t : ModType) (sm : String) (x : Chan) (b : Nat) : Bool :=
  (maskBlk m.spec m.cfg n t sm x.1).getD b false
def varP (m : Model K) (n : String) (t : ModType) (sm : String) (hi : Bool) (x : Chan) (b : Nat) : K :=
  (varBlk m.spec m.cfg n t sm hi x.1).getD b 0

theorem maskBlk_length (s : Spec K) (cfg : Config) (n : String) (t : ModType) (sm c : String) :
    (maskBlk s cfg n t sm c).length = (nomBlk s cfg sm c).length := by
  unfold maskBlk nomBlk
  cases findSample s c sm <;> simp

theorem varBlk_length_norm (s : Spec K) (cfg : Config) (n : String) (t : ModType) (ht : t ≠ .histosys) (sm : String)
    (hi : Bool) (c : String) :
    (varBlk s cfg n t sm hi c).length = (nomBlk s cfg sm c).length := by
  have hb : (t == ModType.histosys) = false := by simpa using ht
  unfold varBlk nomBlk
  cases findSample s c sm with
  | none => simp
  | some x =>
    simp only [hb, Bool.false_eq_true, if_false]
    cases hfm : findMod x n t <;> simp

theorem blocks_pw {α : Type} (m : Model K) (f : String → List α) (d : α)
    (h : ∀ c ∈ m.cfg.channels, (f c).length = m.cfg.nbOf c) :
    blocks m.cfg f = pw m.nb (fun x b => (f x.1).getD b d) m.chans := by
  unfold blocks Model.chans
  rw [← flatMap_zipIdx_fst m.cfg.channels 0 f]
  exact flatMap_eq_pw m.nb (fun x => f x.1) d _ (fun x hx => h x.1 (List.fst_mem_of_mem_zipIdx hx))

theorem nomTab_pw (m : Model K) (hs : Shape m) (sm : String) (hsm : sm ∈ m.cfg.samples) :
    nomTab m.spec m.cfg sm = pw m.nb (nomP m sm) m.chans :=
  blocks_pw m _ 0 (fun c hc => hs.nom_len c hc sm hsm)

theorem maskTab_pw (m : Model K) (hs : Shape m) (n : String) (t : ModType) (sm : String) (hsm : sm ∈ m.cfg.samples) :
    maskTab m.spec m.cfg n t sm = pw m.nb (maskP m n t sm) m.chans :=
  blocks_pw m _ false (fun c hc => by rw [maskBlk_length, hs.nom_len c hc sm hsm])

theorem varTab_pw (m : Model K) (hs : Shape m) (n : String) (t : ModType) (sm : String) (hsm : sm ∈ m.cfg.samples) (hi : Bool)
    (hn : t = .histosys → n ∈ modsOf m.cfg .histosys) :
    varTab m.spec m.cfg n t sm hi = pw m.nb (varP m n t sm hi) m.chans := by
  refine blocks_pw m _ 0 (fun c hc => ?_)
  by_cases ht : t = .histosys
  · subst ht; exact hs.var_len c hc n (hn rfl) sm hsm hi
  · rw [varBlk_length_norm _ _ n t ht, hs.nom_len c hc sm hsm]

theorem replicate_nmain_pw (m : Model K) (hs : Shape m) (a : K) :
    List.replicate m.cfg.nmain a = pw m.nb (fun _ _ => a) m.chans := by
  rw [hs.nmain_eq, ← map_zipIdx_fst m.cfg.channels 0 m.cfg.nbOf]
  exact pw_replicate m.nb a m.chans

/-! ## the access field of bin-wise modifiers -/

theorem maskBlk_eq_replicate (m : Model K) (hs : Shape m) (n : String) (t : ModType) (sm c : String)
    (hc : c ∈ m.cfg.channels) (hsm : sm ∈ m.cfg.samples) :
    maskBlk m.spec m.cfg n t sm c = List.replicate (m.cfg.nbOf c) (declOn m n t sm c) := by
  have h := hs.nom_len c hc sm hsm
  unfold nomBlk at h
  unfold maskBlk declOn
  cases hf : findSample m.spec c sm with
  | none => rfl
  | some x => rw [hf] at h; simp at h; simp [h]

/-- flat parameter index read by bin `b` of channel `x` for the bin-wise modifier `(n,t)` -/
def accessP (m : Model K) (n : String) (t : ModType) (x : Chan) (b : Nat) : Nat :=
  let sel := selection m.slices n
  match t with
  | .shapefactor => if b < sel.length then sel.getD b 0 else 0
  | _ =>
    let sm := (singularSample m.spec m.cfg n t).getD ""
    if declOn m n t sm x.1 then selRead sel (offAt (compCounts m n t) x.2 + b) else 0

theorem accessField_of_ne (s : Spec K) (cfg : Config) (sl : List (String × Nat × Nat)) (n : String) {t : ModType}
    (ht : t ≠ .shapefactor) :
    accessField s cfg sl n t = scatter ((singularMask s cfg n t).getD []) (selection sl n) := by
  unfold accessField
  split
  · exact absurd rfl ht
  · rfl

theorem accessP_of_ne (m : Model K) (n : String) {t : ModType} (ht : t ≠ .shapefactor) (x : Chan) (b : Nat) :
    accessP m n t x b =
      if declOn m n t ((singularSample m.spec m.cfg n t).getD "") x.1 then
        selRead (selection m.slices n) (offAt (compCounts m n t) x.2 + b) else 0 := by
  unfold accessP
  split
  · exact absurd rfl ht
  · rfl

theorem accessField_pw (m : Model K) (hs : Shape m) (n : String) (t : ModType)
    (hsing : t ≠ .shapefactor → (singularSample m.spec m.cfg n t).isSome = true) :
    accessField m.spec m.cfg m.slices n t = pw m.nb (accessP m n t) m.chans := by
  by_cases ht : t = .shapefactor
  · -- the shapefactor blocks are written bin by bin already
    subst ht
    exact (flatMap_zipIdx_fst m.cfg.channels 0 (shapefactorAccessBlk m.cfg (selection m.slices n))).symm
  · obtain ⟨sm, hsm⟩ := Option.isSome_iff_exists.mp (hsing ht)
    have hsmem : sm ∈ m.cfg.samples := by
      exact (List.mem_filter.mp (List.mem_of_getLast? hsm)).1
    have hblocks : maskTab m.spec m.cfg n t sm =
        m.cfg.channels.flatMap fun c => List.replicate (m.cfg.nbOf c) (declOn m n t sm c) :=
      List.flatMap_congr fun c hc => maskBlk_eq_replicate m hs n t sm c hc hsmem
    rw [accessField_of_ne _ _ _ _ ht]
    simp only [singularMask, hsm, Option.map_some, Option.getD_some]
    rw [hblocks, scatter_pw]
    apply pw_congr
    intro x _ b _
    simp only [accessP_of_ne m n ht, compCounts, hsm, Option.getD_some]

/-! ## per-bin formulas (with masks, over all samples and all modifiers of the configuration) -/

theorem clipVec_eq_map (lo : Option K) (xs : List K) : clipVec lo xs = xs.map (clip1 lo) := by
  cases lo with
  | none => exact (List.map_id xs).symm
  | some c => rfl

def lumiTot (m : Model K) (par : Nat → K) : K :=
  sumK ((modsOf m.cfg .lumi).flatMap fun n' => (selection m.slices n').map par)

/-- the value a multiplicative modifier would contribute in bin `b` of channel `x` -/
def valueP (P : Prim K) (m : Model K) (par : Nat → K) (n : String) (t : ModType) (sm : String) (x : Chan) (b : Nat) : K :=
  match t with
  | .lumi => lumiTot m par
  | .normfactor => par (sliceOf m.slices n).1
  | .normsys => normInterp P m.settings.normCode (varP m n t sm false x b) 1 (varP m n t sm true x b) (par (sliceOf m.slices n).1)
  | _ => par (accessP m n t x b)

/-- `where(mask, value, 1)` in one bin -/
def factorP (P : Prim K) (m : Model K) (par : Nat → K) (n : String) (t : ModType) (sm : String) (x : Chan) (b : Nat) : K :=
  if maskP m n t sm x b then valueP P m par n t sm x b else 1

/-- `where(mask, interp, 0)` in one bin -/
def deltaP (m : Model K) (par : Nat → K) (n : String) (sm : String) (x : Chan) (b : Nat) : K :=
  if maskP m n .histosys sm x b then
    histoInterp m.settings.histoCode (varP m n .histosys sm false x b) (nomP m sm x b) (varP m n .histosys sm true x b)
      (par (sliceOf m.slices n).1)
  else 0

def nomPlusP (m : Model K) (par : Nat → K) (sm : String) (x : Chan) (b : Nat) : K :=
  (((modsOf m.cfg .histosys).map fun n => deltaP m par n sm x b) ++ [nomP m sm x b]).foldl (· + ·) 0

def sampleP (P : Prim K) (m : Model K) (par : Nat → K) (sm : String) (x : Chan) (b : Nat) : K :=
  clip1 m.settings.clipSample
    (((factorTypes.flatMap fun t => (modsOf m.cfg t).map fun n => factorP P m par n t sm x b) ++ [nomPlusP m par sm x b]).foldl (· * ·) 1)

def totalP (P : Prim K) (m : Model K) (par : Nat → K) (x : Chan) (b : Nat) : K :=
  clip1 m.settings.clipBin ((m.cfg.samples.map fun sm => sampleP P m par sm x b).foldl (· + ·) 0)

theorem whereK_pw (m : Model K) (mask : Chan → Nat → Bool) (v d : Chan → Nat → K) :
    whereK (pw m.nb mask m.chans) (pw m.nb v m.chans) (pw m.nb d m.chans)
      = pw m.nb (fun x b => if mask x b then v x b else d x b) m.chans := by
  unfold whereK
  rw [pw_zip, pw_zipWith]

/-- every scatter-type modifier of the configuration has a singular sample -/
theorem sing_of_mem (m : Model K) (hs : Shape m) (n : String) (t : ModType) (hmem : (n, t) ∈ m.cfg.modifiers) :
    t ≠ .shapefactor → t ≠ .lumi → t ≠ .normfactor → t ≠ .normsys → t ≠ .histosys →
    (singularSample m.spec m.cfg n t).isSome = true := by
  intro h1 h2 h3 h4 h5
  apply hs.sing n t hmem
  cases t <;> simp_all

theorem factorVec_pw (P : Prim K) (m : Model K) (hs : Shape m) (par : Nat → K) (n : String) (t : ModType)
    (hmem : (n, t) ∈ m.cfg.modifiers) (hna : t ≠ .histosys) (sm : String) (hsm : sm ∈ m.cfg.samples) :
    factorVec P m par n t sm = pw m.nb (factorP P m par n t sm) m.chans := by
  unfold factorVec factorP
  simp only []
  rw [← whereK_pw, maskTab_pw m hs _ _ _ hsm, replicate_nmain_pw m hs 1]
  -- what is left is the value vector, type by type
  congr 1
  cases t with
  | histosys => exact absurd rfl hna
  | lumi => exact replicate_nmain_pw m hs _
  | normfactor => exact replicate_nmain_pw m hs _
  | normsys =>
    simp only [varTab_pw m hs n .normsys sm hsm _ (fun h => by cases h), pw_zipWith]; rfl
  | shapefactor => rw [accessField_pw m hs n .shapefactor (fun h => absurd rfl h), pw_map]; rfl
  | shapesys => rw [accessField_pw m hs n .shapesys (fun _ => hs.sing n _ hmem (.inl rfl)), pw_map]; rfl
  | staterror => rw [accessField_pw m hs n .staterror (fun _ => hs.sing n _ hmem (.inr rfl)), pw_map]; rfl

theorem deltaVec_pw (m : Model K) (hs : Shape m) (par : Nat → K) (n : String) (hn : n ∈ modsOf m.cfg .histosys)
    (sm : String) (hsm : sm ∈ m.cfg.samples) :
    deltaVec m par n sm = pw m.nb (deltaP m par n sm) m.chans := by
  unfold deltaVec
  simp only []
  rw [varTab_pw m hs _ _ _ hsm _ (fun _ => hn), varTab_pw m hs _ _ _ hsm _ (fun _ => hn), nomTab_pw m hs _ hsm, maskTab_pw m hs _ _ _ hsm, replicate_nmain_pw m hs 0,
    pw_zip, pw_zipWith, whereK_pw]
  rfl

theorem sampleVec_pw (P : Prim K) (m : Model K) (hs : Shape m) (par : Nat → K) (sm : String) (hsm : sm ∈ m.cfg.samples) :
    sampleVec P m par sm = pw m.nb (sampleP P m par sm) m.chans := by
  unfold sampleVec
  simp only []
  have hnom : (((modsOf m.cfg .histosys).map fun n => deltaVec m par n sm) ++ [nomTab m.spec m.cfg sm]).foldl vecAdd
      (List.replicate m.cfg.nmain 0) = pw m.nb (nomPlusP m par sm) m.chans := by
    have e : (((modsOf m.cfg .histosys).map fun n => deltaVec m par n sm) ++ [nomTab m.spec m.cfg sm])
        = (((modsOf m.cfg .histosys).map fun n => deltaP m par n sm) ++ [nomP m sm]).map (fun v => pw m.nb v m.chans) := by
      simp only [List.map_append, List.map_map, Function.comp_def, List.map_cons, List.map_nil, nomTab_pw m hs sm hsm]
      congr 1
      exact List.map_congr_left fun n hn => deltaVec_pw m hs par n hn sm hsm
    rw [e, replicate_nmain_pw m hs 0]
    unfold vecAdd
    rw [pw_foldl]
    apply pw_congr
    intro x _ b _
    simp only [nomPlusP, List.map_append, List.map_map, Function.comp_def, List.map_cons, List.map_nil]
  rw [hnom]
  have e : ((factorTypes.flatMap fun t => (modsOf m.cfg t).map fun n => factorVec P m par n t sm) ++ [pw m.nb (nomPlusP m par sm) m.chans])
      = ((factorTypes.flatMap fun t => (modsOf m.cfg t).map fun n => factorP P m par n t sm) ++ [nomPlusP m par sm]).map
          (fun v => pw m.nb v m.chans) := by
    simp only [List.map_append, List.map_cons, List.map_nil, List.map_flatMap, List.map_map, Function.comp_def]
    congr 1
    apply List.flatMap_congr
    intro t ht
    apply List.map_congr_left
    intro n hn
    have hna : t ≠ .histosys := by
      intro h; subst h; simp [factorTypes] at ht
    exact factorVec_pw P m hs par n t ((mem_modsOf _ _ _).mp hn) hna sm hsm
  rw [e, replicate_nmain_pw m hs 1, clipVec_eq_map]
  unfold vecMul
  rw [pw_foldl, pw_map]
  apply pw_congr
  intro x _ b _
  simp only [sampleP, List.map_append, List.map_flatMap, List.map_map, Function.comp_def, List.map_cons, List.map_nil]

/-- **Theorem R, structural half.** The mega-channel computation of `expected_actualdata` is the
concatenation, over the configuration's channels in order, of the per-bin formula `totalP`. -/
theorem expectedActual_pw (P : Prim K) (m : Model K) (hs : Shape m) (par : Nat → K) :
    expectedActual P m par = pw m.nb (totalP P m par) m.chans := by
  unfold expectedActual expectedBySample
  have e : (m.cfg.samples.map (sampleVec P m par))
      = (m.cfg.samples.map fun sm => sampleP P m par sm).map (fun v => pw m.nb v m.chans) := by
    rw [List.map_map]
    exact List.map_congr_left fun sm hsm => sampleVec_pw P m hs par sm hsm
  rw [e, replicate_nmain_pw m hs 0, clipVec_eq_map]
  unfold vecAdd
  rw [pw_foldl, pw_map]
  apply pw_congr
  intro x _ b _
  simp only [totalP, List.map_map, Function.comp_def]

end
end Pyhf
