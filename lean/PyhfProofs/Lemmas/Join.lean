import PyhfModel.Prune
/-!
# How the workspace joins evaluate, one item at a time; what a prune-and-rename pass keeps

The `cons` equations of `names`, `hasDupName`, `commonNames` and of membership, with every test written the way pyhf evaluates it
(the item already in the list on the left of `==`).
-/

/-- what survives "drop some, relabel the rest" (every level of `_prune_and_rename` has this shape) -/
theorem List.mem_map_filter_iff {α β : Type} (p : α → Bool) (f : α → β) (l : List α) (y : β) :
    y ∈ (l.filter p).map f ↔ ∃ x ∈ l, p x = true ∧ y = f x := by
  simp only [List.mem_map, List.mem_filter, and_assoc, eq_comm]

namespace Pyhf.WS
variable {α : Type}

theorem names_nil : names ([] : List (Item α)) = [] := rfl
theorem names_cons (x : Item α) (l : List (Item α)) : names (x :: l) = x.name :: names l := rfl

theorem hasDupName_nil : hasDupName ([] : List (Item α)) = false := rfl
theorem hasDupName_cons (x : Item α) (l : List (Item α)) :
    hasDupName (x :: l) = ((names l).contains x.name || hasDupName l) := rfl

theorem hasDupName_iff (xs : List (Item α)) : hasDupName xs = true ↔ ¬(names xs).Nodup := by
  induction xs with
  | nil => simp [hasDupName_nil, names_nil]
  | cons x xs ih => simp [hasDupName_cons, names_cons, ih, Decidable.or_iff_not_imp_left]

theorem commonNames_nil (r : List (Item α)) : commonNames [] r = false := rfl
theorem commonNames_cons (x : Item α) (l r : List (Item α)) :
    commonNames (x :: l) r = ((names r).contains x.name || commonNames l r) := rfl

/-- `a in l` asks `x == a` of each `x` of `l` in turn -/
theorem contains_eq_any {β : Type} [DecidableEq β] (l : List β) (a : β) : l.contains a = l.any fun x => decide (x = a) :=
  List.any_beq'.symm

theorem applySamples_of_nil (r : PReq) (h1 : r.pruneMods = []) (h2 : r.pruneTypes = []) (h3 : r.renMods = [])
    (h4 : r.pruneSamples = []) (h5 : r.renSamples = []) (ss : List PSample) : applySamples r ss = ss := by
  have hm : ∀ ms : List PMod, applyMods r ms = ms := fun ms => by simp [applyMods, keepMod, h1, h2, h3, getD]
  simp [applySamples, hm, h4, h5, getD]

end Pyhf.WS
