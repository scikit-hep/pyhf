import PyhfModel.Events
import Mathlib.Data.List.GetD
/-!
# What one callback and one operation do to the objects of the registry state machine

Every operation of `PyhfModel/Events.lean` changes `objs` at one position.  Each lemma here says what object is found at position `j`
afterwards; the invariant proofs of C11 read the objects of the new state through them, not by unfolding `precompute` or `step` (which
they unfold only for the registry, the length of `objs` and the `if` of a backend switch).
-/
namespace Pyhf.Events

theorem obj_alive_lt (s : St) (i : Nat) (h : (s.obj i).alive = true) : i < s.objs.length := by
  refine Nat.lt_of_not_le fun hc => ?_
  rw [St.obj, List.getD_eq_default _ _ hc] at h
  cases h

/-- `set` at a position that does not exist changes nothing -/
theorem getD_set (objs : List Obj) (i j : Nat) (o : Obj) :
    (objs.set i o).getD j dead = if j = i ∧ i < objs.length then o else objs.getD j dead := by
  by_cases hji : i = j
  · subst hji
    by_cases hl : i < objs.length
    · simp [hl]
    · simp [hl]
  · simp [hji, Ne.symm hji]

theorem precompute_cur (s : St) (i : Nat) : (precompute s i).cur = s.cur := by unfold precompute; dsimp only; split <;> rfl
theorem precompute_reg (s : St) (i : Nat) : (precompute s i).reg = s.reg := by unfold precompute; dsimp only; split <;> rfl
theorem precompute_len (s : St) (i : Nat) : (precompute s i).objs.length = s.objs.length := by
  unfold precompute; dsimp only; split <;> simp

/-- `_precompute` of object `i` rewrites the cache tags of `i` if it is alive, and touches nothing else -/
theorem precompute_obj (s : St) (i j : Nat) :
    (precompute s i).obj j =
      if j = i ∧ (s.obj i).alive = true then { s.obj i with tag := s.cur, depTags := (s.obj i).deps.map fun d => (s.obj d).tag }
      else s.obj j := by
  unfold precompute; dsimp only
  by_cases ha : (s.obj i).alive = true
  · rw [if_pos ha]
    show (s.objs.set i _).getD j dead = _
    simp only [getD_set, obj_alive_lt s i ha, ha, and_true]
    rfl
  · rw [if_neg ha, if_neg fun h => ha h.2]

theorem precompute_alive (s : St) (i j : Nat) : ((precompute s i).obj j).alive = (s.obj j).alive := by
  rw [precompute_obj]; split
  · next h => rw [h.1]
  · rfl

theorem precompute_deps (s : St) (i j : Nat) : ((precompute s i).obj j).deps = (s.obj j).deps := by
  rw [precompute_obj]; split
  · next h => rw [h.1]
  · rfl

/-- creation appends one live object built under the current backend -/
theorem step_create_obj (s : St) (deps : List Nat) (j : Nat) :
    (step s (.create deps)).obj j =
      if j < s.objs.length then s.obj j
      else if j = s.objs.length then ⟨true, deps, s.cur, deps.map fun d => (s.obj d).tag⟩ else dead := by
  show (s.objs ++ [_]).getD j dead = _
  split
  · next h => exact List.getD_append _ _ _ _ h
  · split
    · next h => subst h; rw [List.getD_append_right _ _ _ _ (Nat.le_refl _)]; simp
    · next h1 h2 => exact List.getD_eq_default _ _ (by simp; omega)

/-- deletion marks one object dead (nothing happens if it does not exist: `dead` is not alive) -/
theorem step_delete_obj (s : St) (id j : Nat) :
    (step s (.delete id)).obj j = if j = id then { s.obj id with alive := false } else s.obj j := by
  show (s.objs.set id _).getD j dead = _
  rw [getD_set]
  by_cases hj : j = id
  · subst hj
    by_cases hl : j < s.objs.length
    · simp [hl]
    · simp [hl, St.obj, dead]
  · rw [if_neg fun h => hj h.1, if_neg hj]; rfl

end Pyhf.Events
