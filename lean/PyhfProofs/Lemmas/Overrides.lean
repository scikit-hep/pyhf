import PyhfModel.Params
import PyhfProofs.Lemmas.ReqDict
/-!
# Measurement overrides are taken verbatim, defaults otherwise (C12)

About `reduceOne` (the model of `reduce_paramsets_requirements` + the `paramset` constructor), for every number type `K`.
`reduceOne_cons` is its closed form: `InvalidNameReuse` if the requirements disagree, else `mergedParamset` if the
requirement `Admits` the measurement entry, else `InvalidModel`.  Everything else is read off from it and from the
`Admissible.…` facts about one attribute; the named statements of property C12 are in `Properties/C12_Overrides.lean`
(`created_paramsets_are_reduced` transports them to every parameter set of a created model).
-/
set_option linter.unusedSectionVars false
namespace Pyhf
namespace Overrides

/-- the value carried by a requirement entry: `some a` for a value, `none` both for an absent key and for Python `None` -/
def Fld.toOption {α : Type} : Fld α → Option α
  | .val a => some a
  | _ => none

/-- the merge of one list-valued attribute: the measurement's value if it supplies one, the requirement's default otherwise -/
def merged {α : Type} (d : Fld (List α)) (u : Option (List α)) : Option (List α) :=
  match u with
  | some v => some v
  | none => Fld.toOption d

/-- **Exactly the admissibility condition the model implements** for one list-valued attribute with default `d`,
measurement value `u`, parameter count `n` (`noneOK`: a Python `None` left in place is tolerated — only for `sigmas`).
* nothing supplied: an absent key is fine, a `None` default only if `noneOK`, a default list must have `n` entries;
* something supplied: the attribute must be *known* to the modifier type (key present, else "unsupported attribute"),
  the supplied list must have `n` entries (paramset constructor check) and — the check inside
  `reduce_paramsets_requirements` — if the default is a non-empty list the supplied one must have the default's length.
  (For every requirement of `Params.lean` (`reqNormalScalar` … `reqStaterror`) the default has `n` entries, so this last clause is then implied by the `n`-entries one.) -/
def Admissible {α : Type} (d : Fld (List α)) (u : Option (List α)) (n : Nat) (noneOK : Bool) : Prop :=
  match u, d with
  | none, .undef => True
  | none, .pyNone => noneOK = true
  | none, .val dv => dv.length = n
  | some _, .undef => False
  | some v, .pyNone => v.length = n
  | some v, .val dv => (dv.length = 0 ∨ v.length = dv.length) ∧ v.length = n

section
variable {α : Type} {d : Fld (List α)} {u : Option (List α)} {n : Nat} {b : Bool}

theorem Admissible.merged_some {v : List α} (h : Admissible d u n b) (hv : u = some v) :
    merged d u = some v ∧ v.length = n := by
  subst hv
  refine ⟨rfl, ?_⟩
  cases d with
  | undef => exact h.elim
  | pyNone => exact h
  | val dv => exact h.2

theorem Admissible.length_merged (h : Admissible d u n b) (l : List α) (hl : merged d u = some l) : l.length = n := by
  cases u with
  | some v => exact Option.some.inj hl ▸ (h.merged_some rfl).2
  | none =>
    cases d with
    | undef | pyNone => cases hl
    | val dv => cases hl; exact h

theorem Admissible.supported {v : List α} (h : Admissible d u n b) (hv : u = some v) : d ≠ .undef := by
  subst hv
  rintro rfl
  exact h

theorem Admissible.default_length {v dv : List α} (h : Admissible d u n b) (hv : u = some v) (hd : d = .val dv)
    (hne : dv ≠ []) : v.length = dv.length := by
  subst hv hd
  exact h.1.resolve_left (mt List.eq_nil_of_length_eq_zero hne)

theorem Admissible.merged_isSome (h : Admissible d u n false) (hd : d ≠ .undef) : (merged d u).isSome = true := by
  cases u with
  | some v => rfl
  | none =>
    cases d with
    | undef => exact absurd rfl hd
    | pyNone => cases h
    | val dv => rfl

end

section
variable {K : Type} [Add K] [Sub K] [Mul K] [Div K] [Neg K] [OfNat K 0] [OfNat K 1]
  [OfScientific K] [LT K] [DecidableLT K] [BEq K]

/-- the parameter set obtained by merging requirement `r` with the measurement entry `u` (every attribute: user
value if supplied, default otherwise).  Quirks kept from the code: `sigmas` is kept only if *truthy* (an empty list
becomes `none`, i.e. unit widths); `factors` defaults to `[]`; a supplied `fixed : Bool` replaces the whole
per-component tuple by the constant flag. -/
def mergedParamset (name : String) (r : Req K) (u : ParCfg K) : Paramset K :=
  { name := name, n := r.n, isScalar := r.isScalar, ptype := r.ptype,
    inits := merged r.inits u.inits, bounds := merged r.bounds u.bounds,
    fixed := (match u.fixed with | some b => FixedV.all b | none => r.fixed),
    auxdata := merged r.auxdata u.auxdata,
    sigmas := (merged r.sigmas u.sigmas).filter (fun l => !l.isEmpty),
    factors := (merged r.factors u.factors).getD [] }

def Admits (r : Req K) (u : ParCfg K) : Prop :=
  Admissible r.inits u.inits r.n false ∧ Admissible r.bounds u.bounds r.n false ∧
  Admissible r.auxdata u.auxdata r.n false ∧ Admissible r.factors u.factors r.n false ∧
  Admissible r.sigmas u.sigmas r.n true

/-! `overrideList` in closed form (`ovOK`, `ovVal`), and the two local functions of `reduceOne` (`badB`, `truthyB`) -/

private def ovOK {α : Type} (d : Fld (List α)) (u : Option (List α)) : Bool :=
  match u, d with
  | some _, .undef => false
  | some v, .val dv => !(dv.length != 0 && v.length != dv.length)
  | _, _ => true

private def ovVal {α : Type} (d : Fld (List α)) (u : Option (List α)) : Option (Option (List α)) :=
  match u, d with
  | none, .undef => none
  | none, .pyNone => some none
  | none, .val dv => some (some dv)
  | some v, _ => some (some v)

private theorem overrideList_eq {α : Type} (d : Fld (List α)) (u : Option (List α)) :
    overrideList d u = if ovOK d u then .ok (ovVal d u) else .error .invalidModel := by
  match d, u with
  | .val dv, some v =>
    simp only [overrideList, ovOK, ovVal]
    by_cases h : (dv.length != 0 && v.length != dv.length) = true <;>
      simp only [h, Bool.not_true, Bool.not_false, Bool.false_eq_true, if_true, if_false]
  | .undef, none | .undef, some _ | .pyNone, none | .pyNone, some _ | .val _, none => rfl

private def badB {α : Type} (n : Nat) (o : Option (Option (List α))) (noneOK : Bool) : Bool :=
  match o with
  | none => false
  | some none => !noneOK
  | some (some l) => l.length != n

private def truthyB {α : Type} (o : Option (Option (List α))) : Option (List α) :=
  match o with
  | some (some l) => if l.isEmpty then none else some l
  | _ => none

private theorem reduceOne_cons_eq (name : String) (r : Req K) (rest : List (Req K)) (u : ParCfg K) :
    reduceOne name (r :: rest) (some u) =
      if rest.any (fun r' => !(r' == r)) then .error .invalidNameReuse else
      (overrideList r.inits u.inits).bind fun o1 =>
      (overrideList r.bounds u.bounds).bind fun o2 =>
      (overrideList r.auxdata u.auxdata).bind fun o3 =>
      (overrideList r.factors u.factors).bind fun o4 =>
      (overrideList r.sigmas u.sigmas).bind fun o5 =>
      if badB r.n o1 false || badB r.n o2 false || badB r.n o3 false || badB r.n o4 false || badB r.n o5 true
      then .error .invalidModel
      else .ok { name := name, n := r.n, isScalar := r.isScalar, ptype := r.ptype,
                 inits := o1.getD none, bounds := o2.getD none,
                 fixed := (match u.fixed with | some b => FixedV.all b | none => r.fixed),
                 auxdata := o3.getD none, sigmas := truthyB o5, factors := (o4.getD none).getD [] } := by
  rfl

private theorem adm_iff {α : Type} (d : Fld (List α)) (u : Option (List α)) (n : Nat) (noneOK : Bool) :
    Admissible d u n noneOK ↔ (ovOK d u = true ∧ badB n (ovVal d u) noneOK = false) := by
  cases d <;> cases u <;> simp [Admissible, ovOK, ovVal, badB]

private theorem ovVal_getD {α : Type} (d : Fld (List α)) (u : Option (List α)) :
    (ovVal d u).getD none = merged d u := by
  cases d <;> cases u <;> rfl

private theorem truthyB_ovVal {α : Type} (d : Fld (List α)) (u : Option (List α)) :
    truthyB (ovVal d u) = (merged d u).filter (fun l => !l.isEmpty) := by
  cases d <;> cases u <;> simp [truthyB, ovVal, merged, Fld.toOption, Option.filter]

private theorem ite_ok_bind {α β : Type} (c : Prop) [Decidable c] (v : α) (e : Err) (f : α → Except Err β) :
    (if c then Except.ok v else .error e).bind f = if c then f v else .error e := by
  split <;> rfl

instance {α : Type} (d : Fld (List α)) (u : Option (List α)) (n : Nat) (b : Bool) : Decidable (Admissible d u n b) :=
  decidable_of_iff _ (adm_iff d u n b).symm

instance (r : Req K) (u : ParCfg K) : Decidable (Admits r u) :=
  inferInstanceAs (Decidable (_ ∧ _))

/-- **`reduceOne` in closed form.**  The agreement check comes first (`==` is the derived `BEq` on requirements, built
on the given `BEq K`; see `reduceOne_agree_eq` for the lawful case); every other refusal is `InvalidModel`, whichever
of the two length checks or the unknown-attribute check fires.  No configuration (`none`) behaves as the all-`none`
configuration. -/
theorem reduceOne_cons (name : String) (r : Req K) (rest : List (Req K)) (cfg : Option (ParCfg K)) :
    reduceOne name (r :: rest) cfg =
      if rest.any (fun r' => !(r' == r)) then .error .invalidNameReuse
      else if Admits r (cfg.getD { name := name }) then .ok (mergedParamset name r (cfg.getD { name := name }))
      else .error .invalidModel := by
  have : reduceOne name (r :: rest) cfg = reduceOne name (r :: rest) (some (cfg.getD { name := name })) := rfl
  rw [this, reduceOne_cons_eq]
  generalize cfg.getD { name := name } = u
  refine if_congr Iff.rfl rfl ?_
  simp only [overrideList_eq, ite_ok_bind]
  by_cases hadm : Admits r u
  · rw [if_pos hadm]
    simp only [Admits, adm_iff] at hadm
    obtain ⟨⟨c1, b1⟩, ⟨c2, b2⟩, ⟨c3, b3⟩, ⟨c4, b4⟩, ⟨c5, b5⟩⟩ := hadm
    simp only [c1, c2, c3, c4, c5, if_true, b1, b2, b3, b4, b5, Bool.or_self, Bool.false_eq_true, if_false,
      ovVal_getD, truthyB_ovVal, mergedParamset]
  · rw [if_neg hadm]
    simp only [ite_eq_right_iff]
    intro c1 c2 c3 c4 c5
    -- passing all ten checks would make `r` admit `u`
    refine if_pos (by_contra fun hb => hadm ?_)
    simp only [Bool.or_eq_true, not_or, Bool.not_eq_true] at hb
    exact ⟨(adm_iff ..).mpr ⟨c1, hb.1.1.1.1⟩, (adm_iff ..).mpr ⟨c2, hb.1.1.1.2⟩, (adm_iff ..).mpr ⟨c3, hb.1.1.2⟩,
      (adm_iff ..).mpr ⟨c4, hb.1.2⟩, (adm_iff ..).mpr ⟨c5, hb.2⟩⟩

/-- **Complete characterisation of acceptance**: the `.ok` side of `reduceOne_cons`, with `Admits` written out. -/
theorem reduceOne_ok_iff (name : String) (r : Req K) (rest : List (Req K)) (cfg : Option (ParCfg K))
    (p : Paramset K) :
    reduceOne name (r :: rest) cfg = .ok p ↔
      (∀ r' ∈ rest, (r' == r) = true) ∧
      Admissible r.inits (cfg.getD { name := name }).inits r.n false ∧
      Admissible r.bounds (cfg.getD { name := name }).bounds r.n false ∧
      Admissible r.auxdata (cfg.getD { name := name }).auxdata r.n false ∧
      Admissible r.factors (cfg.getD { name := name }).factors r.n false ∧
      Admissible r.sigmas (cfg.getD { name := name }).sigmas r.n true ∧
      p = mergedParamset name r (cfg.getD { name := name }) := by
  have hag : (∀ r' ∈ rest, (r' == r) = true) ↔ ¬ rest.any (fun r' => !(r' == r)) = true := by simp
  rw [reduceOne_cons]
  constructor
  · intro h
    obtain ⟨hdis, h⟩ := ite_error_eq_ok h
    split_ifs at h with hadm
    exact ⟨hag.mpr hdis, hadm.1, hadm.2.1, hadm.2.2.1, hadm.2.2.2.1, hadm.2.2.2.2, (Except.ok.inj h).symm⟩
  · rintro ⟨h0, a1, a2, a3, a4, a5, rfl⟩
    rw [if_neg (hag.mp h0), if_pos ⟨a1, a2, a3, a4, a5⟩]

theorem reduceOne_ok_cons {name : String} {rs : List (Req K)} {cfg : Option (ParCfg K)} {p : Paramset K}
    (h : reduceOne name rs cfg = .ok p) :
    ∃ r rest, rs = r :: rest ∧ (∀ r' ∈ rest, (r' == r) = true) ∧ Admits r (cfg.getD { name := name }) ∧
      p = mergedParamset name r (cfg.getD { name := name }) := by
  cases rs with
  | nil => cases h
  | cons r rest =>
    obtain ⟨hag, a1, a2, a3, a4, a5, hp⟩ := (reduceOne_ok_iff name r rest cfg p).mp h
    exact ⟨r, rest, rfl, hag, ⟨a1, a2, a3, a4, a5⟩, hp⟩

theorem reduceOne_name {name : String} {rs : List (Req K)} {cfg : Option (ParCfg K)} {p : Paramset K}
    (h : reduceOne name rs cfg = .ok p) : p.name = name := by
  obtain ⟨r, rest, -, -, -, rfl⟩ := reduceOne_ok_cons h
  rfl

theorem reduceOne_eq_merged {name : String} {r : Req K} {rest : List (Req K)} {cfg : Option (ParCfg K)}
    {p : Paramset K} (h : reduceOne name (r :: rest) cfg = .ok p) :
    p = mergedParamset name r (cfg.getD { name := name }) :=
  ((reduceOne_ok_iff name r rest cfg p).mp h).2.2.2.2.2.2

theorem reduceOne_rejects_inadmissible (name : String) (r : Req K) (rest : List (Req K)) (cfg : Option (ParCfg K))
    (hbad : ¬ Admits r (cfg.getD { name := name })) :
    reduceOne name (r :: rest) cfg =
      .error (if rest.any (fun r' => !(r' == r)) then .invalidNameReuse else .invalidModel) := by
  rw [reduceOne_cons, if_neg hbad]
  split_ifs <;> rfl

theorem reduceOne_error_isPyhf (name : String) (r : Req K) (rest : List (Req K)) (cfg : Option (ParCfg K))
    (e : Err) (h : reduceOne name (r :: rest) cfg = .error e) : e.isPyhf = true := by
  rw [reduceOne_cons] at h
  split_ifs at h <;> cases h <;> rfl

/-- an empty requirement list is a Python `KeyError` (unreachable from `createParamsets`, whose lists are non-empty) -/
theorem reduceOne_nil (name : String) (cfg : Option (ParCfg K)) :
    reduceOne name ([] : List (Req K)) cfg = .error .pyKeyError := rfl

private theorem req_beq_n (r' r : Req K) (h : (r' == r) = true) : r'.n = r.n := by
  simp only [BEq.beq, instBEqReq.beq, Bool.and_eq_true] at h
  simpa using h.2.1

theorem reduceOne_size_all {name : String} {rs : List (Req K)} {cfg : Option (ParCfg K)} {p : Paramset K}
    (h : reduceOne name rs cfg = .ok p) : ∀ r ∈ rs, r.n = p.n := by
  obtain ⟨r, rest, rfl, hag, -, rfl⟩ := reduceOne_ok_cons h
  intro r' hr'
  rcases List.mem_cons.mp hr' with rfl | hr'
  · rfl
  · exact req_beq_n _ _ (hag r' hr')

theorem reduceOne_agree_eq [LawfulBEq (Req K)] {name : String} {rs : List (Req K)} {cfg : Option (ParCfg K)}
    {p : Paramset K} (h : reduceOne name rs cfg = .ok p) : ∃ r, ∀ r' ∈ rs, r' = r := by
  obtain ⟨r, rest, rfl, hag, -⟩ := reduceOne_ok_cons h
  refine ⟨r, fun r' hr' => ?_⟩
  rcases List.mem_cons.mp hr' with rfl | hr'
  · rfl
  · exact eq_of_beq (hag r' hr')

/-! ### defaults otherwise: an attribute that is not supplied takes the requirement's default -/

/-- an attribute not supplied: no measurement entry, or an entry without it -/
private theorem absent {β : Type} (name : String) (f : ParCfg K → Option β) (hf : f { name := name } = none)
    {cfg : Option (ParCfg K)} (hn : cfg.bind f = none) : f (cfg.getD { name := name }) = none := by
  cases cfg <;> assumption

theorem default_inits {name : String} {r : Req K} {rest : List (Req K)} {cfg : Option (ParCfg K)} {p : Paramset K}
    (h : reduceOne name (r :: rest) cfg = .ok p) (hn : cfg.bind (·.inits) = none) :
    p.inits = Fld.toOption r.inits := by
  rw [reduceOne_eq_merged h]
  exact congrArg (merged r.inits) (absent name (·.inits) rfl hn)

theorem default_bounds {name : String} {r : Req K} {rest : List (Req K)} {cfg : Option (ParCfg K)} {p : Paramset K}
    (h : reduceOne name (r :: rest) cfg = .ok p) (hn : cfg.bind (·.bounds) = none) :
    p.bounds = Fld.toOption r.bounds := by
  rw [reduceOne_eq_merged h]
  exact congrArg (merged r.bounds) (absent name (·.bounds) rfl hn)

theorem default_auxdata {name : String} {r : Req K} {rest : List (Req K)} {cfg : Option (ParCfg K)} {p : Paramset K}
    (h : reduceOne name (r :: rest) cfg = .ok p) (hn : cfg.bind (·.auxdata) = none) :
    p.auxdata = Fld.toOption r.auxdata := by
  rw [reduceOne_eq_merged h]
  exact congrArg (merged r.auxdata) (absent name (·.auxdata) rfl hn)

theorem default_sigmas {name : String} {r : Req K} {rest : List (Req K)} {cfg : Option (ParCfg K)} {p : Paramset K}
    (h : reduceOne name (r :: rest) cfg = .ok p) (hn : cfg.bind (·.sigmas) = none) :
    p.sigmas = (Fld.toOption r.sigmas).filter (fun l => !l.isEmpty) := by
  rw [reduceOne_eq_merged h]
  exact congrArg (fun o => (merged r.sigmas o).filter fun l => !l.isEmpty) (absent name (·.sigmas) rfl hn)

theorem default_factors {name : String} {r : Req K} {rest : List (Req K)} {cfg : Option (ParCfg K)} {p : Paramset K}
    (h : reduceOne name (r :: rest) cfg = .ok p) (hn : cfg.bind (·.factors) = none) :
    p.factors = (Fld.toOption r.factors).getD [] := by
  rw [reduceOne_eq_merged h]
  exact congrArg (fun o => (merged r.factors o).getD []) (absent name (·.factors) rfl hn)

theorem default_fixed {name : String} {r : Req K} {rest : List (Req K)} {cfg : Option (ParCfg K)} {p : Paramset K}
    (h : reduceOne name (r :: rest) cfg = .ok p) (hn : cfg.bind (·.fixed) = none) :
    p.fixed = r.fixed := by
  rw [reduceOne_eq_merged h]
  exact congrArg (fun o => match o with | some b => FixedV.all b | none => r.fixed) (absent name (·.fixed) rfl hn)

theorem reduceOne_lengths {name : String} {rs : List (Req K)} {cfg : Option (ParCfg K)} {p : Paramset K}
    (h : reduceOne name rs cfg = .ok p) :
    (∀ l, p.inits = some l → l.length = p.n) ∧ (∀ l, p.bounds = some l → l.length = p.n) ∧
    (∀ l, p.auxdata = some l → l.length = p.n) ∧ (∀ l, p.sigmas = some l → l.length = p.n ∧ l ≠ []) ∧
    (p.factors = [] ∨ p.factors.length = p.n) := by
  obtain ⟨r, rest, rfl, -, ⟨a1, a2, a3, a4, a5⟩, rfl⟩ := reduceOne_ok_cons h
  refine ⟨a1.length_merged, a2.length_merged, a3.length_merged, fun l hl => ?_, ?_⟩
  · obtain ⟨hm, hne⟩ := Option.filter_eq_some_iff.mp hl
    exact ⟨a5.length_merged l hm, by simpa using hne⟩
  · have h4 := a4.length_merged
    simp only [mergedParamset]
    generalize merged r.factors (cfg.getD { name := name }).factors = m at h4 ⊢
    cases m with
    | none => exact .inl rfl
    | some l => exact .inr (h4 l rfl)

theorem staterror_paramset_defaults {name : String} {sig : List K} {fx : List Bool} {rest : List (Req K)}
    {p : Paramset K} (h : reduceOne name (reqStaterror sig fx :: rest) none = .ok p) :
    p.n = sig.length ∧ p.sigmas = (if sig.isEmpty then none else some sig) ∧ p.fixed = FixedV.each fx ∧
    p.inits = some (List.replicate sig.length 1) ∧ p.auxdata = some (List.replicate sig.length 1) := by
  rw [reduceOne_eq_merged h]
  refine ⟨rfl, ?_, rfl, rfl, rfl⟩
  cases sig <;> rfl

/-! ### inadmissible overrides are rejected with a pyhf exception -/

/-- **The quirk.**  Independently of `r.n`: a supplied list is refused when the default is a *non-empty* list of a
different length (nothing is compared when the default is empty or `None`). -/
theorem override_default_length_mismatch_rejected (name : String) (r : Req K) (rest : List (Req K)) (c : ParCfg K)
    (hlen : (∃ v d, c.inits = some v ∧ r.inits = .val d ∧ d ≠ [] ∧ v.length ≠ d.length) ∨
      (∃ v d, c.bounds = some v ∧ r.bounds = .val d ∧ d ≠ [] ∧ v.length ≠ d.length) ∨
      (∃ v d, c.auxdata = some v ∧ r.auxdata = .val d ∧ d ≠ [] ∧ v.length ≠ d.length) ∨
      (∃ v d, c.factors = some v ∧ r.factors = .val d ∧ d ≠ [] ∧ v.length ≠ d.length) ∨
      (∃ v d, c.sigmas = some v ∧ r.sigmas = .val d ∧ d ≠ [] ∧ v.length ≠ d.length)) :
    reduceOne name (r :: rest) (some c) =
      .error (if rest.any (fun r' => !(r' == r)) then .invalidNameReuse else .invalidModel) := by
  refine reduceOne_rejects_inadmissible name r rest (some c) fun ⟨a1, a2, a3, a4, a5⟩ => ?_
  rcases hlen with ⟨v, d, hv, hd, hne, hl⟩ | ⟨v, d, hv, hd, hne, hl⟩ | ⟨v, d, hv, hd, hne, hl⟩ |
    ⟨v, d, hv, hd, hne, hl⟩ | ⟨v, d, hv, hd, hne, hl⟩
  exacts [hl (a1.default_length hv hd hne), hl (a2.default_length hv hd hne), hl (a3.default_length hv hd hne),
    hl (a4.default_length hv hd hne), hl (a5.default_length hv hd hne)]

theorem override_unsupported_rejected (name : String) (r : Req K) (rest : List (Req K)) (c : ParCfg K)
    (hun : (c.inits.isSome = true ∧ r.inits = .undef) ∨ (c.bounds.isSome = true ∧ r.bounds = .undef) ∨
      (c.auxdata.isSome = true ∧ r.auxdata = .undef) ∨ (c.factors.isSome = true ∧ r.factors = .undef) ∨
      (c.sigmas.isSome = true ∧ r.sigmas = .undef)) :
    reduceOne name (r :: rest) (some c) =
      .error (if rest.any (fun r' => !(r' == r)) then .invalidNameReuse else .invalidModel) := by
  refine reduceOne_rejects_inadmissible name r rest (some c) fun ⟨a1, a2, a3, a4, a5⟩ => ?_
  rcases hun with ⟨hs, hd⟩ | ⟨hs, hd⟩ | ⟨hs, hd⟩ | ⟨hs, hd⟩ | ⟨hs, hd⟩ <;>
    obtain ⟨v, hv⟩ := Option.isSome_iff_exists.mp hs
  exacts [a1.supported hv hd, a2.supported hv hd, a3.supported hv hd, a4.supported hv hd, a5.supported hv hd]

end

end Overrides
end Pyhf
