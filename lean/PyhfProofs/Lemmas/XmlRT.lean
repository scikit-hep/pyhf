import PyhfModel.Xml
import PyhfProofs.Lemmas.Except
import PyhfProofs.Lemmas.Find
import Mathlib.Data.Real.Basic
import Mathlib.Tactic.FieldSimp
/-! Helper lemmas for C18: the sequential histogram writes, association-list updates, the file-cache invariant, names under the
`alpha_` prefix, the `ParamSetting` fold. -/
set_option linter.unusedSectionVars false
namespace Pyhf.Props.C18
open Pyhf.Xml

section
variable {K : Type} [Add K] [Sub K] [Mul K] [Div K] [OfNat K 0] [OfNat K 1] [OfScientific K] [BEq K]

theorem relTo_real (a b : ℝ) : relTo a b = if b ≠ 0 then a / b else 0 := by
  unfold relTo
  by_cases h : b = 0
  · subst h; simp
  · simp [h]

-- the histograms a run of export events writes, in order
def evWrites : List (Ev K) → List (String × List K)
  | [] => []
  | .write n d :: r => (n, d) :: evWrites r
  | .fail _ :: r => evWrites r

theorem evWrites_append (a b : List (Ev K)) : evWrites (a ++ b) = evWrites a ++ evWrites b := by
  induction a with
  | nil => rfl
  | cons x xs ih => cases x <;> simp [evWrites, ih]

theorem evWrites_map_write (l : List (String × List K)) : evWrites (l.map fun (n, d) => Ev.write n d) = l := by
  induction l with
  | nil => rfl
  | cons x xs ih => simp [evWrites, ih]

theorem evWrites_flatMap {α : Type} (l : List α) (f : α → List (Ev K)) : evWrites (l.flatMap f) = l.flatMap fun a => evWrites (f a) := by
  induction l with
  | nil => rfl
  | cons a as ih => rw [List.flatMap_cons, evWrites_append, ih, List.flatMap_cons]

theorem runEvs_ok (evs : List (Ev K)) (acc hs : List (String × List K)) (hacc : (acc.map (·.1)).Nodup)
    (h : runEvs evs acc = .ok hs) : hs = acc ++ evWrites evs ∧ (hs.map (·.1)).Nodup := by
  induction evs generalizing acc with
  | nil => cases h; exact ⟨(List.append_nil _).symm, hacc⟩
  | cons e rest ih =>
    cases e with
    | fail e => cases h
    | write n d =>
      obtain ⟨hany, h⟩ := ite_error_eq_ok h
      have hn : n ∉ acc.map (·.1) := by simpa using hany
      obtain ⟨h1, h2⟩ := ih (acc ++ [(n, d)]) (by rw [List.map_append]; exact List.concat_eq_append ▸ hacc.concat hn) h
      exact ⟨by rw [h1, List.append_assoc]; rfl, h2⟩

-- the invariant of `readxml`'s file cache run with clock `k` (the next unused stamp): every stamp on disk or in the cache is
-- below `k`, and a cache entry that bears the disk's stamp has the disk's content
def CInv (k : Nat) (s : CacheState) : Prop :=
  (∀ p f, lookupF s.disk p = some f → f.stamp < k) ∧
  (∀ p g, lookupF s.cache p = some g → g.stamp < k) ∧
  (∀ p g f, lookupF s.cache p = some g → lookupF s.disk p = some f → g.stamp = f.stamp → g.content = f.content)

theorem lookupF_setF (l : List (String × File)) (p q : String) (f : File) :
    lookupF (setF l p f) q = if p = q then some f else lookupF l q := by
  unfold lookupF setF
  by_cases h : p = q
  · subst h; simp
  · -- the filter removes no entry under `q`
    rw [if_neg h, List.find?_cons_of_neg (by simpa using h), List.find?_filter]
    congr 2
    funext e
    by_cases he : e.1 = q
    · simp [he, Ne.symm h]
    · simp [he]

/-- what a read returns when there is no cache at all -/
def diskRead (s : CacheState) (p : String) : Option Nat := (lookupF s.disk p).map (·.content)

theorem CInv.mono {k k' : Nat} {s : CacheState} (h : CInv k s) (hk : k ≤ k') : CInv k' s :=
  ⟨fun p f hf => Nat.lt_of_lt_of_le (h.1 p f hf) hk, fun p g hg => Nat.lt_of_lt_of_le (h.2.1 p g hg) hk, h.2.2⟩

theorem CInv.cache_disk {k : Nat} {s : CacheState} {p : String} {f : File} (h : CInv k s) (hd : lookupF s.disk p = some f) :
    CInv k { s with cache := setF s.cache p f } := by
  obtain ⟨h1, h2, h3⟩ := h
  refine ⟨h1, fun q g hg => ?_, fun q g f' hg hf' hst => ?_⟩
  · rw [lookupF_setF] at hg
    split at hg
    · cases hg; exact h1 p f hd
    · exact h2 q g hg
  · rw [lookupF_setF] at hg
    split at hg
    · next hpq => cases hg; subst hpq; rw [hd] at hf'; cases hf'; rfl
    · exact h3 q g f' hg hf' hst

/-- a write stamps the file with the clock, which nothing in the cache carries yet -/
theorem CInv.write {k : Nat} {s : CacheState} (h : CInv k s) (p : String) (c : Nat) :
    CInv (k + 1) { s with disk := setF s.disk p { stamp := k, content := c } } := by
  obtain ⟨h1, h2, h3⟩ := h
  refine ⟨fun q f hf => ?_, fun q g hg => Nat.lt_succ_of_lt (h2 q g hg), fun q g f hg hf hst => ?_⟩
  · rw [lookupF_setF] at hf
    split at hf
    · cases hf; exact Nat.lt_succ_self k
    · exact Nat.lt_succ_of_lt (h1 q f hf)
  · rw [lookupF_setF] at hf
    split at hf
    · cases hf; exact absurd hst (Nat.ne_of_lt (h2 q g hg))
    · exact h3 q g f hg hf hst

theorem cstep_read {k : Nat} {s : CacheState} (h : CInv k s) (p : String) :
    (cstep k s (.read p)).2 = diskRead s p ∧
    ((cstep k s (.read p)).1 = s ∨
      ∃ f, lookupF s.disk p = some f ∧ (cstep k s (.read p)).1 = { s with cache := setF s.cache p f }) := by
  simp only [cstep, diskRead]
  cases hd : lookupF s.disk p with
  | none => exact ⟨rfl, .inl rfl⟩
  | some f =>
    cases hc : lookupF s.cache p with
    | none => exact ⟨rfl, .inr ⟨f, rfl, rfl⟩⟩
    | some g =>
      by_cases hst : g.stamp = f.stamp
      · dsimp only; rw [if_pos hst]; exact ⟨congrArg some (h.2.2 p g f hc hd hst), .inl rfl⟩
      · dsimp only; rw [if_neg hst]; exact ⟨rfl, .inr ⟨f, rfl, rfl⟩⟩

theorem cstep_read_disk {k : Nat} {s : CacheState} (h : CInv k s) (p : String) : (cstep k s (.read p)).1.disk = s.disk := by
  rcases (cstep_read h p).2 with e | ⟨f, -, e⟩ <;> rw [e]

theorem cstep_inv {k : Nat} {s : CacheState} (h : CInv k s) (op : COp) : CInv (k + 1) (cstep k s op).1 := by
  cases op with
  | write p c => exact h.write p c
  | read p =>
    rcases (cstep_read h p).2 with e | ⟨f, hd, e⟩ <;> rw [e]
    · exact h.mono (Nat.le_succ k)
    · exact (h.cache_disk hd).mono (Nat.le_succ k)

/-- the reference semantics: no cache -/
def refStep (k : Nat) (s : CacheState) : COp → CacheState × Option Nat
  | .write p c => ({ s with disk := setF s.disk p { stamp := k, content := c } }, none)
  | .read p => (s, diskRead s p)

theorem interpret_alpha (n : String) (hne : n ≠ "") : interpretRootname ("alpha_" ++ n) = some n := by
  have hg : "gamma_".toList.isPrefixOf ("alpha_".toList ++ n.toList) = false := rfl
  have hlen : ("alpha_".toList ++ n.toList).length > 6 :=
    List.length_append ▸ Nat.lt_add_of_pos_right (List.length_pos_of_ne_nil (mt String.toList_eq_nil_iff.1 hne))
  unfold interpretRootname
  simp only [String.toList_append]
  rw [if_neg (ne_true_of_eq_false hg), if_pos (List.isPrefixOf_iff_prefix.2 (List.prefix_append _ _)), if_pos hlen,
    List.drop_left' (i := 6) rfl, String.ofList_toList]

/-- a configuration named `n` carries the constant flag -/
def flagged (acc : WPar K × List (WPar K)) (n : String) : Prop := ∃ p ∈ acc.1 :: acc.2, p.name = n ∧ p.fixed = some true

/-! ### the `ParamSetting` loop and the measurement element, as equations -/

theorem applyConst_lumi (acc : WPar K × List (WPar K)) : applyConst acc "lumi" = ({ acc.1 with fixed := some true }, acc.2) := rfl

/-- any other name: its entry (a fresh one if there is none) moves to the end, flagged -/
theorem applyConst_other (acc : WPar K × List (WPar K)) (a : String) (ha : a ≠ "lumi") :
    ∃ cur : WPar K, cur.name = a ∧
      applyConst acc a = (acc.1, acc.2.filter (fun p => !(p.name == a)) ++ [{ cur with fixed := some true }]) := by
  have hb : (a == "lumi") = false := by simpa using ha
  refine ⟨match acc.2.find? (·.name == a) with | some p => p | none => { name := a }, ?_, by simp only [applyConst, hb]; rfl⟩
  cases hf : acc.2.find? (·.name == a) with
  | none => rfl
  | some p => simpa using List.find?_some hf

/-- the loop touches nothing of the luminosity entry but its flag -/
theorem applyConst_fst (acc : WPar K × List (WPar K)) (a : String) : ∃ f, (applyConst acc a).1 = { acc.1 with fixed := f } := by
  by_cases ha : a = "lumi"
  · exact ⟨some true, by rw [ha, applyConst_lumi]⟩
  · obtain ⟨_, -, e⟩ := applyConst_other acc a ha
    exact ⟨acc.1.fixed, by rw [e]⟩

theorem foldl_applyConst_fst (names : List String) (acc : WPar K × List (WPar K)) :
    ∃ f, (names.foldl applyConst acc).1 = { acc.1 with fixed := f } := by
  induction names generalizing acc with
  | nil => exact ⟨acc.1.fixed, rfl⟩
  | cons a as ih =>
    obtain ⟨f, hf⟩ := applyConst_fst acc a
    obtain ⟨g, hg⟩ := ih (applyConst acc a)
    exact ⟨g, by rw [List.foldl_cons, hg, hf]⟩

theorem applyConst_flagged (acc : WPar K × List (WPar K)) (a n : String) (h : acc.1.name = "lumi") :
    flagged (applyConst acc a) n ↔ (n = a ∨ flagged acc n) := by
  unfold flagged
  by_cases ha : a = "lumi"
  · subst ha
    simp only [applyConst_lumi, List.mem_cons, exists_eq_or_imp, h, and_true]
    constructor
    · rintro (rfl | hp); exacts [.inl rfl, .inr (.inr hp)]
    · rintro (rfl | ⟨rfl, -⟩ | hp); exacts [.inl rfl, .inl rfl, .inr hp]
  · obtain ⟨cur, hcur, e⟩ := applyConst_other acc a ha
    simp only [e, List.mem_cons, List.mem_append, List.mem_filter, List.mem_nil_iff, or_false, or_and_right, exists_or,
      exists_eq_left, hcur, and_true, Bool.not_eq_true', beq_eq_false_iff_ne]
    by_cases hna : n = a
    · subst hna; simp
    · -- an entry called `n ≠ a` is flagged in the filtered list iff it was flagged before
      simp only [hna, Ne.symm hna, or_false, false_or]
      exact or_congr_right (exists_congr fun p =>
        ⟨fun ⟨⟨h1, _⟩, h2⟩ => ⟨h1, h2⟩, fun ⟨h1, h2⟩ => ⟨⟨h1, h2.1 ▸ hna⟩, h2⟩⟩)

theorem foldl_applyConst_flagged (names : List String) (acc : WPar K × List (WPar K)) (n : String) (h : acc.1.name = "lumi") :
    flagged (names.foldl applyConst acc) n ↔ (n ∈ names ∨ flagged acc n) := by
  induction names generalizing acc with
  | nil => simp
  | cons a as ih =>
    have h' : (applyConst acc a).1.name = "lumi" := by obtain ⟨f, hf⟩ := applyConst_fst acc a; rw [hf]; exact h
    rw [List.foldl_cons, ih _ h', applyConst_flagged acc a n h, List.mem_cons, or_left_comm, or_assoc]

theorem exportMeas_ok {chans : List (WChan K)} {m : WMeas K} {x : XMeas K} (h : exportMeas chans m = .ok x) :
    ∃ consts, (m.pars.filter (·.fixed == some true)).mapM (constName chans) = .ok consts ∧
      x = { name := m.name, lumi := (lumiOf m).1, lumiRelErr := (lumiOf m).2, poi := m.poi, consts := consts } := by
  obtain ⟨consts, hc, h⟩ := bind_eq_ok.1 h
  exact ⟨consts, hc, by cases h; rfl⟩

theorem importMeas_ok {others : List (WPar K)} {x : XMeas K} {m' : WMeas K} (h : importMeas others x = .ok m') :
    ∃ names, constNames x = .ok names ∧
      m' = { name := x.name, poi := x.poi,
             pars := (names.foldl applyConst (lumiEntry x.lumi x.lumiRelErr, others)).1 ::
                     (names.foldl applyConst (lumiEntry x.lumi x.lumiRelErr, others)).2 } := by
  obtain ⟨names, hn, h⟩ := bind_eq_ok.1 h
  exact ⟨names, hn, by cases h; rfl⟩

end
end Pyhf.Props.C18
