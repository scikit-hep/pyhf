import PyhfModel.Tensor
import Mathlib.Data.List.Sort
import Mathlib.Data.List.Range
import Mathlib.Data.List.Perm.Basic
import Mathlib.Data.List.GetD
/-! `_TensorViewer`: `argsort` of a permutation is its inverse; `stitch` places part `i`'s data at the
positions listed in part `i`'s indices. -/
namespace Pyhf

theorem argsort_length (keys : List Nat) : (argsort keys).length = keys.length := by
  unfold argsort
  simp [List.length_mergeSort]

/-- the sorted pair list has second components `0, 1, …, n−1`: a sorted rearrangement of `range n` is `range n` -/
theorem sorted_pairs_snd (keys : List Nat) (hperm : keys.Perm (List.range keys.length)) :
    ((((List.range keys.length).zip keys).mergeSort (fun a b => decide (a.2 ≤ b.2))).map Prod.snd)
      = List.range keys.length := by
  set P := (List.range keys.length).zip keys with hP
  set S := P.mergeSort (fun a b => decide (a.2 ≤ b.2)) with hS
  have hSP : S.Perm P := List.mergeSort_perm _ _
  have hsorted : S.Pairwise (fun a b => decide (a.2 ≤ b.2) = true) :=
    List.pairwise_mergeSort (fun a b c hab hbc => by simp at *; omega) (fun a b => by simp; omega) P
  have hPsnd : P.map Prod.snd = keys := by
    rw [hP]; exact List.map_snd_zip (by simp)
  have h1 : (S.map Prod.snd).Perm (List.range keys.length) := by
    have := hSP.map Prod.snd
    rw [hPsnd] at this
    exact this.trans hperm
  apply List.Perm.eq_of_pairwise (le := fun a b => a ≤ b) (fun a b _ _ h1 h2 => Nat.le_antisymm h1 h2) _ _ h1
  · rw [List.pairwise_map]
    exact hsorted.imp (fun h => by simpa using h)
  · exact (List.pairwise_lt_range).imp (fun h => Nat.le_of_lt h)

theorem mem_zip_range {keys : List Nat} {p : Nat × Nat} (h : p ∈ (List.range keys.length).zip keys) :
    p.1 < keys.length ∧ keys.getD p.1 0 = p.2 := by
  obtain ⟨i, hi, rfl⟩ := List.mem_iff_getElem.mp h
  have hi' : i < keys.length := by simpa using hi
  simp [hi']

/-- entry `j` of `argsort keys` is the first component of entry `j` of the sorted pair list, a pair `(i, keys[i])` -/
theorem argsort_getD (keys : List Nat) (j : Nat) (hj : j < keys.length) :
    ∃ p ∈ (List.range keys.length).zip keys, (argsort keys).getD j 0 = p.1 ∧
      (((List.range keys.length).zip keys).mergeSort (fun a b => decide (a.2 ≤ b.2)))[j]? = some p := by
  have hj' : j < (((List.range keys.length).zip keys).mergeSort (fun a b => decide (a.2 ≤ b.2))).length := by
    simpa [List.length_mergeSort] using hj
  exact ⟨_, (List.mergeSort_perm _ _).mem_iff.mp (List.getElem_mem hj'),
    by simp [argsort, List.getD_eq_getElem?_getD, List.getElem?_eq_getElem hj'], List.getElem?_eq_getElem hj'⟩

theorem argsort_getD_lt (keys : List Nat) (j : Nat) (hj : j < keys.length) : (argsort keys).getD j 0 < keys.length := by
  obtain ⟨p, hp, hA, -⟩ := argsort_getD keys j hj
  rw [hA]; exact (mem_zip_range hp).1

/-- **argsort of a permutation is its inverse**: `keys[argsort(keys)[j]] = j` -/
theorem argsort_spec (keys : List Nat) (hperm : keys.Perm (List.range keys.length)) (j : Nat) (hj : j < keys.length) :
    keys.getD ((argsort keys).getD j 0) 0 = j := by
  obtain ⟨p, hp, hA, hS⟩ := argsort_getD keys j hj
  have := congrArg (fun l => l[j]?) (sorted_pairs_snd keys hperm)
  simp only [List.getElem?_map, hS, Option.map_some, List.getElem?_range hj, Option.some.injEq] at this
  rw [hA, (mem_zip_range hp).2, this]

theorem getD_lt_of_perm_range {keys : List Nat} (hperm : keys.Perm (List.range keys.length)) {i : Nat}
    (hi : i < keys.length) : keys.getD i 0 < keys.length := by
  rw [List.getD_eq_getElem _ _ hi]
  exact List.mem_range.mp (hperm.mem_iff.mp (List.getElem_mem hi))

/-- `argsort(keys)[keys[i]] = i` -/
theorem argsort_inv (keys : List Nat) (hperm : keys.Perm (List.range keys.length)) (i : Nat) (hi : i < keys.length) :
    (argsort keys).getD (keys.getD i 0) 0 = i := by
  have hnd : keys.Nodup := hperm.nodup_iff.mpr List.nodup_range
  have hki := getD_lt_of_perm_range hperm hi
  have h := argsort_spec keys hperm (keys.getD i 0) hki
  exact (List.getD_inj (argsort_getD_lt keys _ hki) hi hnd).mp h

/-- **stitch**: entry `i` of the concatenated data lands at position `keys[i]` -/
theorem stitch_spec {α : Type} (tv : TV) (d : α) (data : List (List α))
    (hperm : tv.parts.flatten.Perm (List.range tv.parts.flatten.length))
    (i : Nat) (hi : i < tv.parts.flatten.length) :
    (tv.stitch d data).getD (tv.parts.flatten.getD i 0) d = data.flatten.getD i d := by
  unfold TV.stitch TV.sorted
  have hinv := argsort_inv tv.parts.flatten hperm i hi
  have hk2 : tv.parts.flatten.getD i 0 < (argsort tv.parts.flatten).length := by
    rw [argsort_length]; exact getD_lt_of_perm_range hperm hi
  rw [List.getD_eq_getElem _ _ (by rw [List.length_map]; exact hk2), List.getElem_map]
  rw [List.getD_eq_getElem _ _ hk2] at hinv
  rw [hinv]

/-- **stitch sorts by key**: if the concatenated indices are the keys of a list `l`, the concatenated data its
`f`-values, and `l` is a rearrangement of a list `ts` whose keys are `0, 1, …` in order, then the stitched vector
is `ts.map f` -/
theorem stitch_eq_map {α β : Type} (tv : TV) (d : α) (data : List (List α)) (l ts : List β) (key : β → Nat) (f : β → α)
    (hparts : tv.parts.flatten = l.map key) (hdata : data.flatten = l.map f)
    (hperm : l.Perm ts) (hkey : ts.map key = List.range ts.length) :
    tv.stitch d data = ts.map f := by
  have hplen : tv.parts.flatten.length = ts.length := by rw [hparts, List.length_map]; exact hperm.length_eq
  have hpp : tv.parts.flatten.Perm (List.range tv.parts.flatten.length) := by
    rw [hplen, hparts, ← hkey]; exact hperm.map _
  apply List.ext_getElem
  · simp only [TV.stitch, TV.sorted, List.length_map, argsort_length, hplen]
  · intro j h1 h2
    rw [List.length_map] at h2
    obtain ⟨i, hi, hie⟩ := List.mem_iff_getElem.mp (hperm.mem_iff.mpr (List.getElem_mem h2))
    have hi' : i < tv.parts.flatten.length := by rw [hparts, List.length_map]; exact hi
    have hj : key ts[j] = j := by
      have := congrArg (fun l => l[j]?) hkey
      simpa [h2] using this
    have hk : tv.parts.flatten.getD i 0 = j := by
      rw [List.getD_eq_getElem _ _ hi']; simp only [hparts, List.getElem_map, hie, hj]
    have hs := stitch_spec tv d data hpp i hi'
    rw [hk, List.getD_eq_getElem _ _ h1] at hs
    rw [hs, List.getD_eq_getElem _ _ (by rw [hdata, List.length_map]; exact hi)]
    simp only [hdata, List.getElem_map, hie]

theorem split_spec {α : Type} (tv : TV) (d : α) (v : List α) :
    tv.split d v = tv.parts.map (fun idx => idx.map fun i => v.getD i d) := rfl

/-- split ∘ stitch = id up to the grouping into parts (for index lists partitioning `0..n−1`) -/
theorem split_stitch {α : Type} (tv : TV) (d : α) (data : List (List α))
    (hperm : tv.parts.flatten.Perm (List.range tv.parts.flatten.length))
    (hlen : data.flatten.length = tv.parts.flatten.length) :
    (tv.split d (tv.stitch d data)).flatten = data.flatten := by
  rw [split_spec, ← List.map_flatten]
  apply List.ext_getElem
  · rw [List.length_map, hlen]
  · intro i h1 h2
    rw [List.length_map] at h1
    rw [List.getElem_map]
    have := stitch_spec tv d data hperm i h1
    rw [List.getD_eq_getElem _ _ h1] at this
    rw [this, List.getD_eq_getElem _ _ (by omega)]

end Pyhf
