import PyhfModel.Infer
import Mathlib.Data.Real.Basic
/-! `numpy.interp`: stepping over a grid point. -/
namespace Pyhf.Infer

/-- An abscissa below `x` whose successor is not above `x` is stepped over, whether or not the two tie. -/
theorem npInterp_cons_skip (x v g : ℝ) (ys gs : List ℝ) (hv : v < x) (hy : ∀ y ∈ ys.head?, y ≤ x)
    (hne : ys ≠ []) : npInterp x (v :: ys) (g :: gs) = npInterp x ys gs := by
  cases ys with
  | nil => exact absurd rfl hne
  | cons y ys => simp [npInterp, hv.not_ge, (hy y rfl).not_gt]

end Pyhf.Infer
