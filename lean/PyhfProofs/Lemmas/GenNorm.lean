import PyhfProofs.Lemmas.GenAttr
import PyhfProofs.Lemmas.InterpReal
import Mathlib.Tactic.Linarith
/-!
# Reading a generated decision tree

The translator enumerates paths: a generated function is a tree of `if`s on the comparisons the code makes, with one closed
expression per path (infeasible paths such as `1 < α ∧ α < -1` included).  A theorem about such a tree is proved regime by regime:
the lemmas `code*_regimes` list, for the comparisons one interpolation code makes on its parameter, the combinations that can occur;
in each, `simp only [gen_norm, h]` selects the leaf on every tree in the goal and normalises it, and what is left is an identity
between the leaves.
-/
namespace Pyhf
open Interp

attribute [gen_norm] zero_add add_zero one_mul mul_one div_one realPrim_pow realPrim_log Real.rpow_one Real.rpow_ofNat
-- `↓`: an `if` is decided from its condition on the way down, so that only the leaf of the regime is normalised, not the whole tree
attribute [gen_norm_proc ↓] reduceIte

/-! Literals: the model's (`sci_*`), `0.0`, and the entries of `A_inverse` at `α₀ = 1` as numpy holds them — all dyadic, so the
doubles are the fractions. -/
attribute [gen_norm] sci_0 sci_1 sci_2 sci_3 sci_4 sci_5 sci_6 sci_7 sci_8 sci_9 sci_10 sci_15 sci_16 sci_0_5 sci_1_5 sci_0_0625
  sci_0_125 sci_0_1875 sci_0_3125 sci_0_4375 sci_0_5625 sci_0_625 sci_0_875 sci_0_9375

/-! The model's interpolation functions in the same normal form. -/
attribute [gen_norm] slow0 slow1 slow2_real c2a_real c2b_real slow4p_real core4p s4p a4p

/-! ## the comparisons of each code, by regime -/

/-- codes 0 and 1 ask `0 < α`; code 2 asks `1 < α` and `-1 ≤ α` (the scalar reference also `α ≤ 1`) -/
theorem code2_regimes (a : ℝ) : (1 < a ∧ -1 ≤ a) ∨ (¬ 1 < a ∧ -1 ≤ a ∧ a ≤ 1) ∨ (¬ 1 < a ∧ ¬ -1 ≤ a) := by
  rcases lt_or_ge 1 a with h | h
  · exact .inl ⟨h, by linarith⟩
  · rcases le_or_gt (-1) a with h' | h'
    · exact .inr (.inl ⟨not_lt.mpr h, h', h⟩)
    · exact .inr (.inr ⟨not_lt.mpr h, not_le.mpr h'⟩)

/-- code 4p asks `1 < α` and `α < -1` -/
theorem code4p_regimes (a : ℝ) : (1 < a ∧ ¬ a < -1) ∨ (¬ 1 < a ∧ ¬ a < -1) ∨ (¬ 1 < a ∧ a < -1) := by
  rcases lt_or_ge 1 a with h | h
  · exact .inl ⟨h, by linarith⟩
  · rcases lt_or_ge a (-1) with h' | h'
    · exact .inr (.inr ⟨not_lt.mpr h, h'⟩)
    · exact .inr (.inl ⟨not_lt.mpr h, not_lt.mpr h'⟩)

/-- the vectorised code 4 asks `α₀ ≤ α`, `-α₀ < α` and, for the masked exponent, `α₀ ≤ |α|`; the scalar reference `α < α₀` -/
theorem code4_regimes {a0 : ℝ} (h0 : 0 < a0) (a : ℝ) :
    (a0 ≤ a ∧ -a0 < a ∧ absK a = a) ∨ (¬ a0 ≤ a ∧ -a0 < a ∧ ¬ a0 ≤ absK a ∧ a < a0) ∨
      (¬ a0 ≤ a ∧ ¬ -a0 < a ∧ absK a = -a ∧ a0 ≤ -a) := by
  rw [absK_real]
  rcases le_or_gt a0 a with h | h
  · exact .inl ⟨h, by linarith, abs_of_nonneg (by linarith)⟩
  · rcases lt_or_ge (-a0) a with h' | h'
    · exact .inr (.inl ⟨not_le.mpr h, h', not_le.mpr (abs_lt.mpr ⟨h', h⟩), h⟩)
    · exact .inr (.inr ⟨not_le.mpr h, not_lt.mpr h', abs_of_nonpos (by linarith), by linarith⟩)

/-! ## the polynomial cores as whole models carry them -/

/-- A model is built with `α₀ = 1`, and numpy multiplies `A_inverse` out numerically then.  What the generated trees carry is the
model's coefficient vector, whatever the six boundary values `b` are (compare the entries with `code4Coeffs`). -/
@[gen_norm] theorem gen_code4_core (b1 b2 b3 b4 b5 b6 a : ℝ) :
    1 + ((15 / 16 * b1 + -(15 / 16) * b2 + -(7 / 16) * b3 + -(7 / 16) * b4 + 1 / 16 * b5 + -(1 / 16) * b6) * a
      + (3 / 2 * b1 + 3 / 2 * b2 + -(9 / 16) * b3 + 9 / 16 * b4 + 1 / 16 * b5 + 1 / 16 * b6) * a ^ 2
      + (-(5 / 8) * b1 + 5 / 8 * b2 + 5 / 8 * b3 + 5 / 8 * b4 + -(1 / 8) * b5 + 1 / 8 * b6) * a ^ 3
      + (-(3 / 2) * b1 + -(3 / 2) * b2 + 7 / 8 * b3 + -(7 / 8) * b4 + -(1 / 8) * b5 + -(1 / 8) * b6) * a ^ 4
      + (3 / 16 * b1 + -(3 / 16) * b2 + -(3 / 16) * b3 + -(3 / 16) * b4 + 1 / 16 * b5 + -(1 / 16) * b6) * a ^ 5
      + (1 / 2 * b1 + 1 / 2 * b2 + -(5 / 16) * b3 + 5 / 16 * b4 + 1 / 16 * b5 + 1 / 16 * b6) * a ^ 6)
    = poly6 (code4Coeffs 1 ⟨b1, b2, b3, b4, b5, b6⟩) a := by
  simp only [poly6_real, code4Coeffs, ipow_eq, one_pow, mul_one, sci_1, sci_2, sci_3, sci_5, sci_7, sci_8, sci_9, sci_15, sci_16]
  ring1

/-- `slow4` at `α₀ = 1`, nominal 1, with the boundary values in the form the trees have them -/
@[gen_norm] theorem slow4_one (dn up a : ℝ) : slow4 realPrim 1 dn 1 up a =
    if 1 ≤ a then up ^ a
    else if -1 < a then poly6 (code4Coeffs 1 ⟨up - 1, dn - 1, Real.log up * up, -Real.log dn * dn,
      Real.log up ^ 2 * up, Real.log dn ^ 2 * dn⟩) a
    else dn ^ (-a) := by
  simp only [slow4, code4Rhs, ipow_eq, div_one, realPrim_pow, realPrim_log, Real.rpow_one]

/-! ## the clipped difference of `test_statistics.py` -/

/-- the code clips with `if 0 ≤ d then … else 0`, the model with `if d < 0 then 0 else …`; `c` is the one-sided zeroing condition -/
theorem clip_zeroed (c : Prop) [Decidable c] (d : ℝ) :
    (if 0 ≤ d then if c then 0 else d else 0) = if c then 0 else if d < 0 then 0 else d := by
  simp only [← not_lt, ite_not]
  split_ifs <;> rfl

theorem clip_two_sided (d : ℝ) : (if 0 ≤ d then d else 0) = if d < 0 then 0 else d := by
  simp only [← not_lt, ite_not]

end Pyhf
